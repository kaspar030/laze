import LazeModel.Lemmas.OrderedSet
/-! Insertion-ordered maps as association lists (`IndexMap`, and the hash maps whose iteration order
    the model fixes).  Every table of the model is a `List (String × α)` that is read with
    `find? (·.1 == k)` / `any (·.1 == k)` and written with "modify the entry in place if the key is
    there, else append" (`IndexMap::entry`).  `lk` is the read, `upsert` the write; the model's
    definitions unfold to the two (the last section says so for `Env` and `insertKeyed`; for the other tables the user
    gives the update function, e.g. `lk_upsert t n x (fun o => dedup (o.getD [] ++ l))` for `FileTable.extend`).
    The namespace is that of `lk`, which property C09 (order-insensitivity of look-ups) is stated with. -/
namespace Laze.C09
universe u
variable {α : Type u} {β : Type u}

/-- lookup of the first entry with key `k` (the shape of `Env.get`, `Flat.get`, `rulesGet`) -/
def lk (l : List (String × α)) (k : String) : Option α := (l.find? (·.1 == k)).map (·.2)

/-- `IndexMap::entry(k)`: `f (some old)` replaces the value in place, `f none` is appended -/
def upsert (l : List (String × α)) (k : String) (f : Option α → α) : List (String × α) :=
  if l.any (·.1 == k) then l.map (fun e => if e.1 == k then (k, f (some e.2)) else e)
  else l ++ [(k, f none)]

/-! ### lists searched by a key (`find? (key · == k)`): contexts, modules, entries by name -/

theorem find?_key {γ : Type u} {key : γ → String} {l : List γ} {k : String} {a : γ}
    (h : l.find? (key · == k) = some a) : key a = k :=
  eq_of_beq (List.find?_some (p := (key · == k)) h)

theorem any_key {γ : Type u} (key : γ → String) (l : List γ) (k : String) :
    l.any (key · == k) = true ↔ k ∈ l.map key := by
  simp only [List.any_eq_true, List.mem_map, beq_iff_eq]

theorem find?_map_key {γ δ : Type u} (key : γ → String) (key' : δ → String) (f : γ → δ)
    (hf : ∀ a, key' (f a) = key a) (l : List γ) (k : String) :
    (l.map f).find? (key' · == k) = (l.find? (key · == k)).map f := by
  rw [List.find?_map]
  exact congrArg (fun p => (l.find? p).map f) (funext fun a => by simp [hf])

theorem any_map_key {γ δ : Type u} (key : γ → String) (key' : δ → String) (f : γ → δ)
    (hf : ∀ a, key' (f a) = key a) (l : List γ) (k : String) :
    (l.map f).any (key' · == k) = l.any (key · == k) := by
  rw [List.any_map]
  exact congrArg (fun p => l.any p) (funext fun a => by simp [hf])

/-! ### reading -/

@[simp] theorem lk_nil (k : String) : lk ([] : List (String × α)) k = none := rfl

theorem lk_cons (p : String × α) (l : List (String × α)) (k : String) :
    lk (p :: l) k = if p.1 = k then some p.2 else lk l k := by
  unfold lk
  rw [List.find?_cons]
  by_cases h : p.1 = k
  · simp [h]
  · simp [h, beq_eq_false_iff_ne.2 h]

theorem lk_append (l m : List (String × α)) (k : String) :
    lk (l ++ m) k = (lk l k).or (lk m k) := by
  induction l with
  | nil => simp
  | cons p t ih =>
    rw [List.cons_append, lk_cons, lk_cons, ih]
    split <;> simp

theorem lk_isSome (l : List (String × α)) (k : String) : (lk l k).isSome = l.any (·.1 == k) := by
  induction l with
  | nil => rfl
  | cons p t ih =>
    rw [lk_cons, List.any_cons, ← ih]
    by_cases h : p.1 = k <;> simp [h]

theorem lk_eq_none_iff {l : List (String × α)} {k : String} : lk l k = none ↔ k ∉ l.map (·.1) := by
  rw [← any_key Prod.fst, ← lk_isSome]
  cases lk l k <;> simp

theorem lk_mem {l : List (String × α)} {k : String} {v : α} (h : lk l k = some v) : (k, v) ∈ l := by
  obtain ⟨p, hf, rfl⟩ := Option.map_eq_some_iff.1 h
  cases find?_key (key := Prod.fst) hf
  exact List.mem_of_find?_eq_some hf

theorem lk_eq_some_iff {l : List (String × α)} (hl : (l.map (·.1)).Nodup) (k : String) (v : α) :
    lk l k = some v ↔ (k, v) ∈ l := by
  refine ⟨lk_mem, fun hm => ?_⟩
  induction l with
  | nil => cases hm
  | cons p t ih =>
    rw [List.map_cons, List.nodup_cons] at hl
    rw [lk_cons]
    rcases List.mem_cons.1 hm with rfl | hm
    · rw [if_pos rfl]
    · rw [if_neg (fun e : p.1 = k => hl.1 (e ▸ List.mem_map.2 ⟨(k, v), hm, rfl⟩)), ih hl.2 hm]

theorem lk_perm {l l' : List (String × α)} (hl : (l.map (·.1)).Nodup) (hp : l.Perm l')
    (k : String) : lk l k = lk l' k := by
  have hl' : (l'.map (·.1)).Nodup := (hp.map (·.1)).nodup_iff.1 hl
  apply Option.ext
  intro v
  rw [lk_eq_some_iff hl, lk_eq_some_iff hl', hp.mem_iff]

theorem lk_map (g : String → α → β) (l : List (String × α)) (k : String) :
    lk (l.map (fun e => (e.1, g e.1 e.2))) k = (lk l k).map (g k) := by
  induction l with
  | nil => rfl
  | cons p t ih =>
    rw [List.map_cons, lk_cons, lk_cons, ih]
    split
    · rename_i h; rw [← h]; rfl
    · rfl

theorem lk_filter (p : String → Bool) (l : List (String × α)) (k : String) :
    lk (l.filter (fun e => p e.1)) k = if p k then lk l k else none := by
  induction l with
  | nil => simp
  | cons e t ih =>
    rw [List.filter_cons, lk_cons]
    by_cases hk : e.1 = k
    · subst hk
      by_cases hp : p e.1 = true
      · rw [if_pos hp, lk_cons, if_pos rfl, if_pos rfl, if_pos hp]
      · rw [if_neg hp, ih, if_neg hp, if_neg hp]
    · rw [if_neg hk]
      split
      · rw [lk_cons, if_neg hk, ih]
      · exact ih

/-! ### writing -/

/-- the in-place modification of `upsert` rewrites values only: every entry keeps its key -/
theorem modify_eq (k : String) (g : α → α) :
    (fun e : String × α => if e.1 == k then (k, g e.2) else e) =
      fun e => (e.1, if e.1 = k then g e.2 else e.2) := by
  funext e
  by_cases h : e.1 = k
  · rw [if_pos (beq_iff_eq.2 h), if_pos h, h]
  · rw [if_neg fun h' => h (beq_iff_eq.1 h'), if_neg h]

theorem lk_modify (l : List (String × α)) (k k' : String) (g : α → α) :
    lk (l.map (fun e => if e.1 == k then (k, g e.2) else e)) k' =
      if k' = k then (lk l k).map g else lk l k' := by
  rw [modify_eq, lk_map (fun key v => if key = k then g v else v)]
  by_cases hk : k' = k
  · subst hk
    simp only [if_true]
  · simp only [if_neg hk, Option.map_id']

/-- **the law of every table of the model**; no uniqueness of keys is needed -/
theorem lk_upsert (l : List (String × α)) (k k' : String) (f : Option α → α) :
    lk (upsert l k f) k' = if k' = k then some (f (lk l k)) else lk l k' := by
  unfold upsert
  cases h : lk l k with
  | some v =>
    rw [← lk_isSome, h, Option.isSome_some, if_pos rfl, lk_modify l k k' (fun v => f (some v)), h]
    rfl
  | none =>
    rw [← lk_isSome, h, Option.isSome_none, if_neg Bool.false_ne_true, lk_append, lk_cons, lk_nil]
    by_cases hk : k' = k
    · subst hk; simp [h]
    · simp [hk, Ne.symm hk]

theorem upsert_keys (l : List (String × α)) (k : String) (f : Option α → α) :
    (upsert l k f).map (·.1) = setAdd (l.map (·.1)) k := by
  unfold upsert setAdd
  by_cases h : l.any (·.1 == k) = true
  · rw [if_pos h, if_pos (List.contains_iff_mem.2 ((any_key Prod.fst l k).1 h)), modify_eq k fun v => f (some v), List.map_map]
    rfl
  · rw [if_neg h, if_neg fun hm => h ((any_key Prod.fst l k).2 (List.contains_iff_mem.1 hm)), List.map_append]
    rfl

theorem upsert_nodup {l : List (String × α)} (h : (l.map (·.1)).Nodup) (k : String)
    (f : Option α → α) : ((upsert l k f).map (·.1)).Nodup :=
  upsert_keys l k f ▸ nodup_setAdd h k

/-- a fold of plain inserts (`IndexMap::insert`): the LAST item with key `k` counts -/
theorem lk_foldl_insert {γ : Type u} (key : γ → String) (val : γ → α) (xs : List γ)
    (l : List (String × α)) (k : String) :
    lk (xs.foldl (fun acc x => upsert acc (key x) (fun _ => val x)) l) k =
      ((xs.reverse.find? (key · == k)).map val).or (lk l k) := by
  induction xs generalizing l with
  | nil => simp
  | cons x t ih =>
    rw [List.foldl_cons, ih, lk_upsert, List.reverse_cons, List.find?_append]
    cases t.reverse.find? (key · == k) with
    | some y => rfl
    | none =>
      by_cases h : key x = k
      · rw [List.find?_cons_of_pos (p := (key · == k)) (beq_iff_eq.2 h), if_pos h.symm]
        rfl
      · rw [List.find?_cons_of_neg (p := (key · == k)) fun h' => h (beq_iff_eq.1 h'), if_neg (Ne.symm h)]
        rfl

/-! ### the model's tables read through `lk` / `upsert`, each by `rfl`: `insertKeyed` (`IndexMap::insert`) is `upsert`
    with a constant, `Env.get` is `lk`, `Env.insert` is `insertKeyed` -/

open Laze

theorem insertKeyed_keys (acc : List (String × α)) (k : String) (v : α) :
    (insertKeyed acc k v).map (·.1) = setAdd (acc.map (·.1)) k := upsert_keys acc k (fun _ => v)

theorem insertKeyed_nodup {acc : List (String × α)} (h : (acc.map (·.1)).Nodup) (k : String)
    (v : α) : ((insertKeyed acc k v).map (·.1)).Nodup := upsert_nodup h k (fun _ => v)

theorem lk_insertKeyed (acc : List (String × α)) (k k' : String) (v : α) :
    lk (insertKeyed acc k v) k' = if k' = k then some v else lk acc k' := lk_upsert acc k k' (fun _ => v)

theorem get_eq_lk (e : Env) (k : String) : e.get k = lk e k := rfl

theorem insert_get (e : Env) (k k' : String) (v : EnvKey) :
    (e.insert k v).get k' = if k' = k then some v else e.get k' :=
  lk_insertKeyed e k k' v

end Laze.C09
