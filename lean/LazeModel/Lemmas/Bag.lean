import LazeModel.Model.Build
import LazeModel.Lemmas.Assoc
/-! The bag of contexts as a look-up structure (`Model/Types.lean`): a context by name, a module by
    name in a context and along the chain of a context, one step of the chain, the names disabled
    from outside, and what a rewriting of the contexts that keeps names and parents (`Bag.mapCtx`)
    leaves of all these. -/
namespace Laze
open C09 (find?_key find?_map_key)

/-! ### look-ups by name -/

theorem Bag.ctx?_name {b : Bag} {n : Name} {c : Context} (h : b.ctx? n = some c) : c.name = n :=
  find?_key (key := Context.name) h

theorem Bag.ctx?_mem {b : Bag} {n : Name} {c : Context} (h : b.ctx? n = some c) : c ∈ b.contexts :=
  List.mem_of_find?_eq_some h

theorem Bag.ctx?_of_nodup {b : Bag} (hn : (b.contexts.map (·.name)).Nodup) {c : Context}
    (hc : c ∈ b.contexts) : b.ctx? c.name = some c := by
  cases hf : b.ctx? c.name with
  | none => exact absurd (beq_self_eq_true _) (List.find?_eq_none.1 hf c hc)
  | some y => exact congrArg some (eq_of_nodup_map hn (Bag.ctx?_mem hf) hc (Bag.ctx?_name hf))

theorem Context.module?_name {c : Context} {n : Name} {m : Module} (h : c.module? n = some m) :
    m.name = n :=
  find?_key (key := Module.name) h

theorem Context.module?_congr {c c' : Context} (h : c'.modules = c.modules) (n : Name) :
    c'.module? n = c.module? n := by
  unfold Context.module?; rw [h]

theorem Bag.resolveModule_name {b : Bag} {c n : Name} {m : Module}
    (h : b.resolveModule c n = some m) : m.name = n := by
  obtain ⟨_, _, hctx⟩ := List.exists_of_findSome?_eq_some h
  exact Context.module?_name hctx

/-! ### the chain of a context -/

theorem Bag.tree_ctx? (b : Bag) (n : Name) :
    b.tree.ctx? n = (b.ctx? n).map (fun c => ⟨c.name, c.parent⟩) :=
  find?_map_key Context.name CtxT.name _ (fun _ => rfl) b.contexts n

theorem Bag.chain_congr {b b' : Bag} (h : b.tree = b'.tree) (n : Name) : b.chain n = b'.chain n :=
  congrArg (·.chain n) h

theorem Tree.chainUp_succ {t : Tree} {n : Name} {c : CtxT} (h : t.ctx? n = some c) (f : Nat) :
    t.chainUp (f + 1) n = n :: c.parent.elim [] (t.chainUp f) := by
  rw [Tree.chainUp, h]
  dsimp only
  cases c.parent <;> rfl

theorem Tree.chainUp_of_ctx?_none {t : Tree} {n : Name} (h : t.ctx? n = none) (f : Nat) :
    t.chainUp f n = [] := by
  cases f with
  | zero => rfl
  | succ f => rw [Tree.chainUp, h]

theorem Bag.chainUp_succ {b : Bag} {n : Name} {c : Context} (h : b.ctx? n = some c) (f : Nat) :
    b.tree.chainUp (f + 1) n = n :: c.parent.elim [] (b.tree.chainUp f) :=
  Tree.chainUp_succ (by rw [Bag.tree_ctx?, h]; rfl) f

theorem Bag.chain_cons {b : Bag} {n : Name} {c : Context} (h : b.ctx? n = some c) :
    b.chain n = n :: (b.chain n).tail := by
  unfold Bag.chain Tree.chain
  rw [Bag.chainUp_succ h]
  rfl

theorem Bag.chain_nil {b : Bag} {n : Name} (h : b.ctx? n = none) : b.chain n = [] :=
  Tree.chainUp_of_ctx?_none (by rw [Bag.tree_ctx?, h]; rfl) _

theorem Bag.chainCtx_cons {b : Bag} {n : Name} {c : Context} (h : b.ctx? n = some c) :
    b.chainCtx n = c :: (b.chain n).tail.filterMap b.ctx? := by
  unfold Bag.chainCtx
  rw [Bag.chain_cons h, List.filterMap_cons, h]
  rfl

/-! ### the names disabled from outside -/

theorem mem_initialDisabled (b : Bag) (builder : Name) (cli : Cli) (x : Name) :
    x ∈ initialDisabled b builder cli ↔
      (∃ c ∈ b.chainCtx builder, x ∈ c.disable.getD []) ∨ x ∈ cli.disable.getD [] := by
  unfold initialDisabled Bag.collectDisabled
  rw [mem_dedup, List.mem_append, mem_dedup, List.mem_flatMap]
  simp only [List.mem_reverse]

/-! ### rewriting every context -/

def Bag.mapCtx (b : Bag) (f : Context → Context) : Bag := { contexts := b.contexts.map f }

section mapCtx
variable {f : Context → Context} (hn : ∀ c, (f c).name = c.name) (hp : ∀ c, (f c).parent = c.parent)
include hn

theorem Bag.mapCtx_ctx? (b : Bag) (n : Name) : (b.mapCtx f).ctx? n = (b.ctx? n).map f :=
  find?_map_key Context.name Context.name f hn b.contexts n

include hp

theorem Bag.mapCtx_tree (b : Bag) : (b.mapCtx f).tree = b.tree := by
  simp only [Bag.tree, Bag.mapCtx, List.map_map, Function.comp_def, hn, hp]

theorem Bag.mapCtx_chain (b : Bag) (n : Name) : (b.mapCtx f).chain n = b.chain n :=
  Bag.chain_congr (b.mapCtx_tree hn hp) n

theorem Bag.mapCtx_chainCtx (b : Bag) (n : Name) : (b.mapCtx f).chainCtx n = (b.chainCtx n).map f := by
  unfold Bag.chainCtx
  rw [Bag.mapCtx_chain hn hp, List.map_filterMap]
  exact congrArg (List.filterMap · _) (funext (Bag.mapCtx_ctx? hn b))

theorem Bag.mapCtx_resolveModule (hm : ∀ c, (f c).modules = c.modules) (b : Bag) (c n : Name) :
    (b.mapCtx f).resolveModule c n = b.resolveModule c n := by
  unfold Bag.resolveModule
  rw [Bag.mapCtx_chainCtx hn hp, List.findSome?_map]
  exact congrArg (List.findSome? · _) (funext fun x => Context.module?_congr (hm x) n)

end mapCtx

end Laze
