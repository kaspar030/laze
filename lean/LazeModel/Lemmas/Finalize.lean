import LazeModel.Lemmas.LoaderLoops
/-! `finalize` (context_bag.rs): the contexts are counted (`parentCounts`), sorted by parent count (`sortByCount`), and two passes
    run over the sorted list (`inheritAll`). Here: what the sorted list is (`finalize_sorted`), and what ANY pass that
    rewrites one context from its parent computes when run over such a list (`pass_inherited`). The env pass (C04) and the
    var_options pass (C14, C17) are the two instances. -/
namespace Laze
open C09 (find?_key any_key)

/-! ### contexts by name -/

theorem findCtx_name {cs : List Context} {n : Name} {c : Context} (h : findCtx cs n = some c) : c.name = n :=
  find?_key (key := Context.name) h

/-- rewriting the contexts called `n`, seen through `findCtx` -/
theorem findCtx_updateCtx {cs : List Context} {n : Name} {c : Context} (hc : findCtx cs n = some c)
    (f : Context → Context) (hf : ∀ c, (f c).name = c.name) (n' : Name) :
    findCtx (updateCtx cs n f) n' = if n' = n then some (f c) else findCtx cs n' := by
  unfold updateCtx
  unfold findCtx at hc ⊢
  rw [C09.find?_map_key Context.name Context.name _ fun a => by split; exact hf a; rfl]
  split
  · next hn => rw [hn, hc]; exact congrArg some (if_pos (beq_iff_eq.2 (find?_key hc)))
  · next hn =>
    cases h : cs.find? (Context.name · == n') with
    | none => rfl
    | some c' => exact congrArg some (if_neg fun e => hn ((find?_key h).symm.trans (beq_iff_eq.1 e)))

theorem findCtx_of_mem_names {cs : List Context} {n : Name} (h : n ∈ cs.map (·.name)) :
    ∃ c, findCtx cs n = some c :=
  Option.isSome_iff_exists.1 (List.find?_isSome.2 (List.any_eq_true.1 ((any_key Context.name cs n).2 h)))

/-! ### `countParents`, one level at a time -/

theorem countParents_succ (cs : List Context) (f : Nat) (n : Name) :
    countParents cs (f + 1) n =
      match findCtx cs n with
      | none => some 0
      | some c => match c.parent with
        | none => some 0
        | some p => (countParents cs f p).map (· + 1) := rfl

theorem countParents_root {cs : List Context} {n : Name} {c : Context} (hc : findCtx cs n = some c)
    (hp : c.parent = none) (f : Nat) : countParents cs (f + 1) n = some 0 := by
  rw [countParents_succ, hc]
  dsimp only
  rw [hp]

theorem countParents_child {cs : List Context} {n p : Name} {c : Context} (hc : findCtx cs n = some c)
    (hp : c.parent = some p) (f : Nat) :
    countParents cs (f + 1) n = (countParents cs f p).map (· + 1) := by
  rw [countParents_succ, hc]
  dsimp only
  rw [hp]

theorem countParents_parent {cs : List Context} {f : Nat} {n : Name} {k : Nat} {c : Context}
    {p : Name} (h : countParents cs (f + 1) n = some k) (hc : findCtx cs n = some c)
    (hp : c.parent = some p) : ∃ kp, countParents cs f p = some kp ∧ k = kp + 1 := by
  rw [countParents_child hc hp] at h
  obtain ⟨kp, hkp, rfl⟩ := Option.map_eq_some_iff.1 h
  exact ⟨kp, hkp, rfl⟩

theorem countParents_mono (cs : List Context) (f : Nat) (n : Name) (k : Nat)
    (h : countParents cs f n = some k) : countParents cs (f + 1) n = some k := by
  induction f generalizing n k with
  | zero => cases h
  | succ f ih =>
    cases hc : findCtx cs n with
    | none => rw [countParents_succ, hc] at h ⊢; exact h
    | some c =>
      cases hp : c.parent with
      | none => rw [countParents_root hc hp] at h ⊢; exact h
      | some p =>
        obtain ⟨kp, hkp, rfl⟩ := countParents_parent h hc hp
        rw [countParents_child hc hp, ih p kp hkp]
        rfl

/-! ### `parentCounts`: a count for every context, or "parent cycle" -/

theorem parentCounts_spec {cs l : List Context} {counts : List (Name × Nat)}
    (h : parentCounts cs l = .ok counts) :
    counts.map (·.1) = l.map (·.name) ∧
      ∀ x ∈ counts, countParents cs (cs.length + 1) x.1 = some x.2 := by
  induction l generalizing counts with
  | nil =>
    unfold parentCounts at h
    cases h
    exact ⟨rfl, fun x hx => absurd hx List.not_mem_nil⟩
  | cons c rest ih =>
    unfold parentCounts at h
    split at h
    · cases h
    · next k hk =>
      split at h
      · cases h
      · next l' hl' =>
        cases h
        obtain ⟨h1, h2⟩ := ih hl'
        exact ⟨congrArg (c.name :: ·) h1, List.forall_mem_cons.2 ⟨hk, h2⟩⟩

theorem parentCounts_cycle {cs l : List Context} {c : Context}
    (hc : countParents cs (cs.length + 1) c.name = none) (hmem : c ∈ l) :
    parentCounts cs l = .error (.error "context_bag.rs:parent cycle") := by
  induction l with
  | nil => cases hmem
  | cons x rest ih =>
    unfold parentCounts
    split
    · rfl
    · rename_i k hk
      rcases List.mem_cons.1 hmem with rfl | h
      · rw [hc] at hk; cases hk
      · rw [ih h]

/-! ### the work list: sorted by parent count -/

theorem insertByCount_perm (x : Name × Nat) (l : List (Name × Nat)) :
    (insertByCount x l).Perm (x :: l) :=
  perm_insert (ins := insertByCount) (p := fun x y => y.2 ≤ x.2) (fun _ => rfl) (fun _ _ _ => rfl) x l

theorem sortByCount_perm (counts : List (Name × Nat)) : (sortByCount counts).Perm counts := by
  have := perm_foldl_insert insertByCount_perm counts []
  rwa [List.append_nil] at this

theorem insertByCount_sorted (x : Name × Nat) (l : List (Name × Nat))
    (h : l.Pairwise (fun a b => a.2 ≤ b.2)) :
    (insertByCount x l).Pairwise (fun a b => a.2 ≤ b.2) := by
  induction l with
  | nil => exact List.pairwise_singleton _ _
  | cons y ys ih =>
    rw [List.pairwise_cons] at h
    unfold insertByCount
    split
    · next hle =>
      have hy : ∀ z ∈ x :: ys, y.2 ≤ z.2 := List.forall_mem_cons.2 ⟨hle, h.1⟩
      exact List.pairwise_cons.2 ⟨fun z hz => hy z ((insertByCount_perm x ys).mem_iff.1 hz), ih h.2⟩
    · next hgt =>
      have hlt : x.2 ≤ y.2 := Nat.le_of_lt (Nat.lt_of_not_le hgt)
      exact List.pairwise_cons.2
        ⟨List.forall_mem_cons.2 ⟨hlt, fun z hz => Nat.le_trans hlt (h.1 z hz)⟩, List.pairwise_cons.2 h⟩

theorem sortByCount_sorted (counts : List (Name × Nat)) :
    (sortByCount counts).Pairwise (fun a b => a.2 ≤ b.2) :=
  List.foldlRecOn counts _ List.Pairwise.nil fun b hb a _ => insertByCount_sorted a b hb

theorem mem_pre_of_lt {pre post : List (Name × Nat)} {nk x : Name × Nat}
    (hs : (pre ++ nk :: post).Pairwise (fun a b => a.2 ≤ b.2)) (hx : x ∈ pre ++ nk :: post)
    (hlt : x.2 < nk.2) : x ∈ pre := by
  rcases List.mem_append.1 hx with hx | hx
  · exact hx
  · have hle : nk.2 ≤ x.2 := by
      rcases List.mem_cons.1 hx with rfl | hx
      · exact Nat.le_refl _
      · exact (List.pairwise_cons.1 (List.pairwise_append.1 hs).2.1).1 x hx
    omega

/-! ### `finalize` (= `finalizeBag` once `default` is there) -/

theorem withDefaultContext_nodup {cs0 : List Context} (h : (cs0.map (·.name)).Nodup) :
    ((withDefaultContext cs0).map (·.name)).Nodup := by
  unfold withDefaultContext
  split
  · exact h
  · next hno =>
    rw [List.map_append]
    exact List.nodup_snoc.2 ⟨h, fun hm => hno ((any_key Context.name cs0 "default").2 hm)⟩

theorem all_parentKnown {cs : List Context} :
    cs.all (parentKnown cs) = true ↔ ∀ c ∈ cs, ∀ p, c.parent = some p → ∃ c' ∈ cs, c'.name = p := by
  rw [List.all_eq_true]
  refine forall₂_congr fun c _ => ?_
  unfold parentKnown
  cases c.parent with
  | none => exact ⟨fun _ _ h => (by cases h), fun _ => rfl⟩
  | some p => simp only [List.any_eq_true, beq_iff_eq, Option.some.injEq, forall_eq']

theorem finalizeBag_eq (cs : List Context) :
    finalizeBag cs =
      if cs.all (parentKnown cs) then
        (parentCounts cs cs).map fun counts => (inheritAll cs (sortByCount counts), sortByCount counts)
      else .error (.error "unknown parent") := by
  unfold finalizeBag
  cases cs.all (parentKnown cs)
  · rfl
  · cases parentCounts cs cs <;> rfl

theorem finalizeBag_ok {cs : List Context} {r : List Context × List (Name × Nat)} :
    finalizeBag cs = .ok r ↔
      (∀ c ∈ cs, ∀ p, c.parent = some p → ∃ c' ∈ cs, c'.name = p) ∧
      ∃ counts, parentCounts cs cs = .ok counts ∧ (inheritAll cs (sortByCount counts), sortByCount counts) = r := by
  rw [finalizeBag_eq, ← all_parentKnown]
  split
  · next h => rw [Except.map_eq_ok]; exact (and_iff_right h).symm
  · next h => exact ⟨fun e => (by cases e), fun e => absurd e.1 h⟩

-- in the namespace of C17, whose `inherit_nearest` is stated with them
namespace C17
/-- the sort order `finalize` needs: the entry of a non-root parent comes before its children's -/
def ParentsFirst (cs : List Context) (sorted : List (Name × Nat)) : Prop :=
  ∀ pre nk post, sorted = pre ++ nk :: post → ∀ c p, findCtx cs nk.1 = some c → c.parent = some p →
    ∃ pc, findCtx cs p = some pc ∧ (pc.parent = none ∨ p ∈ pre.map (·.1))

/-- the recorded parent count is zero exactly for roots -/
def CountsOK (cs : List Context) (sorted : List (Name × Nat)) : Prop :=
  ∀ nk ∈ sorted, ∀ c, findCtx cs nk.1 = some c → (nk.2 = 0 ↔ c.parent = none)
end C17

/-- **what `finalize` folds over**: every context once, with its parent count, parents first -/
theorem finalize_sorted {cs0 cs : List Context} {sorted : List (Name × Nat)}
    (h : finalize cs0 = .ok (cs, sorted)) :
    cs = inheritAll (withDefaultContext cs0) sorted ∧
    (sorted.map (·.1)).Perm ((withDefaultContext cs0).map (·.name)) ∧
    (∀ x ∈ sorted, countParents (withDefaultContext cs0) ((withDefaultContext cs0).length + 1) x.1 = some x.2) ∧
    C17.ParentsFirst (withDefaultContext cs0) sorted ∧ C17.CountsOK (withDefaultContext cs0) sorted := by
  obtain ⟨hall, counts, hcounts, ⟨⟩⟩ := finalizeBag_ok.1 h
  obtain ⟨hnames, hcnt⟩ := parentCounts_spec hcounts
  have hperm := sortByCount_perm counts
  have hpn : ((sortByCount counts).map (·.1)).Perm ((withDefaultContext cs0).map (·.name)) := by
    rw [← hnames]; exact hperm.map _
  have hc : ∀ x ∈ sortByCount counts, _ := fun x hx => hcnt x (hperm.mem_iff.1 hx)
  refine ⟨rfl, hpn, hc, ?_, ?_⟩
  · -- the parent is in the bag, so it has an entry `x`; its count is smaller, so `x` stands before
    intro pre nk post hs c p hfc hcp
    have hp := List.mem_map.2 (hall c (List.mem_of_find?_eq_some hfc) p hcp)
    obtain ⟨pc, hpc⟩ := findCtx_of_mem_names hp
    obtain ⟨x, hx, hxp⟩ := List.mem_map.1 (hpn.mem_iff.2 hp)
    obtain ⟨kp, hkp, hk⟩ := countParents_parent (hc nk (hs ▸ List.mem_append_right _ List.mem_cons_self)) hfc hcp
    have hx2 : some x.2 = some kp := by rw [← hc x hx, hxp, countParents_mono _ _ p kp hkp]
    refine ⟨pc, hpc, Or.inr (List.mem_map.2 ⟨x, ?_, hxp⟩)⟩
    exact mem_pre_of_lt (hs ▸ sortByCount_sorted counts) (hs ▸ hx) (by cases hx2; omega)
  · intro nk hnk c hfc
    have := hc nk hnk
    cases hp : c.parent with
    | none =>
      rw [countParents_root hfc hp] at this
      exact ⟨fun _ => rfl, fun _ => (Option.some.inj this).symm⟩
    | some p =>
      obtain ⟨kp, _, hk⟩ := countParents_parent this hfc hp
      exact ⟨fun h0 => by omega, fun h0 => (by cases h0)⟩

/-! ### a pass of `finalize`, in general

Both passes (`mergeParentEnv`, `inheritVarOptions`) walk the sorted list and replace the context called
`n` by `g par c`, where `c` is that context and `par` its parent AS THEY ARE AT THAT MOMENT. Processed
parents-first, every context ends up as what `g` makes of it when run down its parent chain
(`Inherited`). -/

/-- one pass, seen through `findCtx`: the entry of a context with a parent in the bag rewrites that context from
    its parent (`upd`); every other entry leaves the bag as it is (`skip`) -/
structure PassStep (step : List Context → Name × Nat → List Context) (g : Context → Context → Context) : Prop where
  upd : ∀ {cs n k c par}, k ≠ 0 → findCtx cs n = some c → parentCtx cs c = some par →
    ∀ n', findCtx (step cs (n, k)) n' = if n' = n then some (g par c) else findCtx cs n'
  skip : ∀ {cs n k}, (k = 0 ∨ ∀ c, findCtx cs n = some c → parentCtx cs c = none) → step cs (n, k) = cs

/-- what `g` keeps of a context, the pass keeps of every context of the bag -/
theorem PassStep.keeps {step g} (hs : PassStep step g) {β} {π : Context → Option β}
    (hπ : ∀ par c, π (g par c) = π c) (cs : List Context) (nk : Name × Nat) (n' : Name) :
    (findCtx (step cs nk) n').bind π = (findCtx cs n').bind π := by
  obtain ⟨n, k⟩ := nk
  by_cases hk : k = 0
  · rw [hs.skip (.inl hk)]
  cases hc : findCtx cs n with
  | none => rw [hs.skip (.inr fun c h => by rw [hc] at h; cases h)]
  | some c =>
    cases hp : parentCtx cs c with
    | none => rw [hs.skip (.inr fun c' h => by cases hc.symm.trans h; exact hp)]
    | some par =>
      rw [hs.upd hk hc hp]
      split
      · next hn => rw [hn, hc]; exact hπ par c
      · rfl

theorem PassStep.foldl_keeps {step g} (hs : PassStep step g) {β} {π : Context → Option β}
    (hπ : ∀ par c, π (g par c) = π c) (sorted : List (Name × Nat)) (cs : List Context) (n' : Name) :
    (findCtx (sorted.foldl step cs) n').bind π = (findCtx cs n').bind π :=
  List.foldlRecOn (motive := fun cs' => (findCtx cs' n').bind π = (findCtx cs n').bind π) sorted step rfl
    fun cs' h nk _ => (hs.keeps hπ cs' nk n').trans h

/-- `c'` is what the context called `n` becomes when `g` is run down its parent chain: a root stays
    as it is, a child `c` becomes `g par' c` for what its parent has become -/
inductive Inherited (cs : List Context) (g : Context → Context → Context) : Name → Context → Prop where
  | root {n c} : findCtx cs n = some c → c.parent = none → Inherited cs g n c
  | up {n c p par'} : findCtx cs n = some c → c.parent = some p → Inherited cs g p par' →
      Inherited cs g n (g par' c)

/-- after the entries `done`: the others are untouched, the processed contexts are final -/
def PassInv (cs : List Context) (g : Context → Context → Context) (done : List (Name × Nat))
    (cur : List Context) : Prop :=
  (∀ n, n ∉ done.map (·.1) → findCtx cur n = findCtx cs n) ∧
  (∀ n ∈ done.map (·.1), ∀ c, findCtx cs n = some c → ∃ c', findCtx cur n = some c' ∧ Inherited cs g n c')

section Pass
variable {step : List Context → Name × Nat → List Context} {g : Context → Context → Context}
  (hs : PassStep step g) (cs : List Context) (sorted : List (Name × Nat))
  (H1 : (sorted.map (·.1)).Nodup) (H2 : C17.ParentsFirst cs sorted) (H3 : C17.CountsOK cs sorted)
include hs H1 H2 H3

theorem pass_entry (done : List (Name × Nat)) (n : Name) (k : Nat) (todo : List (Name × Nat))
    (hsorted : sorted = done ++ (n, k) :: todo) (cur : List Context) (hI : PassInv cs g done cur) :
    (∀ n', n' ≠ n → findCtx (step cur (n, k)) n' = findCtx cur n') ∧
    ∀ c, findCtx cs n = some c → ∃ c', findCtx (step cur (n, k)) n = some c' ∧ Inherited cs g n c' := by
  have hnd : n ∉ done.map (·.1) := by
    rw [hsorted, List.map_append, List.map_cons, List.nodup_append] at H1
    exact fun hin => H1.2.2 n hin n List.mem_cons_self rfl
  have hcur : findCtx cur n = findCtx cs n := hI.1 n hnd
  by_cases hch : ∃ c p, findCtx cs n = some c ∧ c.parent = some p
  · obtain ⟨c, p, hc, hp⟩ := hch
    have hk : k ≠ 0 := fun hk => by
      rw [(H3 (n, k) (hsorted ▸ List.mem_append_right _ List.mem_cons_self) c hc).1 hk] at hp; cases hp
    -- the parent is a root or was processed: either way it is final
    obtain ⟨pc, hpc, hpd⟩ := H2 done (n, k) todo hsorted c p hc hp
    obtain ⟨pc', hpcur, hnp⟩ : ∃ pc', findCtx cur p = some pc' ∧ Inherited cs g p pc' := by
      by_cases hin : p ∈ done.map (·.1)
      · exact hI.2 p hin pc hpc
      · exact ⟨pc, by rw [hI.1 p hin, hpc], hpd.elim (.root hpc) fun hin' => absurd hin' hin⟩
    have hnew := hs.upd hk (hcur.trans hc)
      (show parentCtx cur c = some pc' by unfold parentCtx; rw [hp]; exact hpcur)
    refine ⟨fun n' hn' => by rw [hnew, if_neg hn'], fun c' hc' => ?_⟩
    cases hc.symm.trans hc'
    exact ⟨_, by rw [hnew, if_pos rfl], .up hc hp hnp⟩
  · -- a root, or not in the bag: the step changes nothing
    have hroot : ∀ c, findCtx cs n = some c → c.parent = none := fun c hc =>
      Option.eq_none_iff_forall_ne_some.2 fun p hp => hch ⟨c, p, hc, hp⟩
    have he : step cur (n, k) = cur := hs.skip (.inr fun c hc => by
      unfold parentCtx; rw [hroot c (hcur ▸ hc)]; rfl)
    exact ⟨fun _ _ => by rw [he], fun c hc => ⟨c, by rw [he, hcur, hc], .root hc (hroot c hc)⟩⟩

theorem pass_step (done : List (Name × Nat)) (nk : Name × Nat) (todo : List (Name × Nat))
    (hsorted : sorted = done ++ nk :: todo) (cur : List Context) (hI : PassInv cs g done cur) :
    PassInv cs g (done ++ [nk]) (step cur nk) := by
  obtain ⟨n, k⟩ := nk
  obtain ⟨hother, hself⟩ := pass_entry hs cs sorted H1 H2 H3 done n k todo hsorted cur hI
  have hmem : ∀ n', n' ∈ (done ++ [(n, k)]).map (·.1) ↔ n' ∈ done.map (·.1) ∨ n' = n := fun n' => by
    rw [List.map_append, List.mem_append, List.map_cons, List.map_nil, List.mem_singleton]
  constructor
  · intro n' hn'
    rw [hmem, not_or] at hn'
    rw [hother n' hn'.2]
    exact hI.1 n' hn'.1
  · intro n' hn' c hc
    by_cases hnn : n' = n
    · subst hnn
      exact hself c hc
    · rw [hother n' hnn]
      exact hI.2 n' (((hmem n').1 hn').resolve_right hnn) c hc

theorem pass_fold (todo done : List (Name × Nat)) (hsorted : sorted = done ++ todo) (cur : List Context)
    (hI : PassInv cs g done cur) : PassInv cs g sorted (todo.foldl step cur) := by
  induction todo generalizing done cur with
  | nil => rw [List.append_nil] at hsorted; rw [hsorted]; exact hI
  | cons nk rest ih =>
    exact ih (done ++ [nk]) (hsorted.trans (List.append_cons ..)) _
      (pass_step hs cs sorted H1 H2 H3 done nk rest hsorted cur hI)

/-- **a pass of `finalize`**, for ANY list processed parents-first: every listed context ends up as
    what `g` makes of it, run down its parent chain -/
theorem pass_inherited (n : Name) (c : Context) (hc : findCtx cs n = some c) (hn : n ∈ sorted.map (·.1)) :
    ∃ c', findCtx (sorted.foldl step cs) n = some c' ∧ Inherited cs g n c' :=
  (pass_fold hs cs sorted H1 H2 H3 sorted [] rfl cs ⟨fun _ _ => rfl, fun _ h => by cases h⟩).2 n hn c hc
end Pass

end Laze
