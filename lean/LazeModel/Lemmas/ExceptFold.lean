/-! Computations in `Except`: when a `do` block succeeds (`bind_eq_ok`), loops written as two equations
    are `List.foldlM` of their step (`eq_foldlM`), what a loop that succeeds preserves (`foldlM_ok_rel`,
    `foldlM_inv`), and the errors a computation can end with (`ErrIn`). Nothing here mentions the model. -/

namespace Except
variable {ε α β γ σ : Type _}

/-- `simp only [bind_eq_ok, pure_eq_ok] at h` turns a `do` block that returned `.ok` into its successful steps -/
theorem bind_eq_ok {x : Except ε α} {f : α → Except ε β} {b : β} :
    x >>= f = .ok b ↔ ∃ a, x = .ok a ∧ f a = .ok b := by
  cases x with
  | ok a => exact ⟨fun h => ⟨a, rfl, h⟩, fun ⟨_, h, h'⟩ => by cases h; exact h'⟩
  | error e => exact ⟨fun h => (by cases h), fun ⟨_, h, _⟩ => (by cases h)⟩

theorem pure_eq_ok {a b : α} : (pure a : Except ε α) = .ok b ↔ a = b :=
  ⟨Except.ok.inj, congrArg _⟩

theorem map_eq_ok {f : α → β} {x : Except ε α} {b : β} :
    x.map f = .ok b ↔ ∃ a, x = .ok a ∧ f a = b := by
  constructor
  · intro h
    cases x with
    | ok a => exact ⟨a, rfl, Except.ok.inj h⟩
    | error e => cases h
  · rintro ⟨a, rfl, rfl⟩
    rfl

theorem eq_foldlM {loop : List α → σ → Except ε σ} {step : σ → α → Except ε σ}
    (hnil : ∀ s, loop [] s = .ok s) (hcons : ∀ a l s, loop (a :: l) s = step s a >>= loop l) (l : List α) (s : σ) :
    loop l s = l.foldlM step s := by
  induction l generalizing s with
  | nil => exact hnil s
  | cons a l ih => rw [hcons, List.foldlM_cons]; congr 1; funext s'; exact ih s'

theorem foldlM_ok_rel {f : β → α → Except ε β} {g : γ → α → γ} (R : β → γ → Prop) (l : List α) {b : β} {c : γ}
    {b' : β} (hs : ∀ a ∈ l, ∀ b c b', R b c → f b a = .ok b' → R b' (g c a)) (h0 : R b c)
    (h : l.foldlM f b = .ok b') : R b' (l.foldl g c) := by
  induction l generalizing b c with
  | nil => cases h; exact h0
  | cons a l ih =>
    rw [List.foldlM_cons] at h
    obtain ⟨b₁, hf, h⟩ := bind_eq_ok.1 h
    exact ih (fun x hx => hs x (List.mem_cons_of_mem _ hx)) (hs a List.mem_cons_self b c b₁ h0 hf) h

theorem foldlM_inv {step : σ → α → Except ε σ} (P : σ → Prop)
    (h : ∀ s a s', P s → step s a = .ok s' → P s') {l : List α} {s s' : σ}
    (hl : l.foldlM step s = .ok s') (hs : P s) : P s' :=
  foldlM_ok_rel (g := fun (u : Unit) _ => u) (c := ()) (fun s _ => P s) l (fun a _ s _ s' => h s a s') hs hl

/-- every error `x` can end with satisfies `S` -/
def ErrIn (S : ε → Prop) (x : Except ε α) : Prop := ∀ e, x = .error e → S e

variable {S : ε → Prop}

theorem ErrIn.ok (v : α) : ErrIn S (.ok v : Except ε α) := fun _ h => by cases h
theorem ErrIn.error {e : ε} (h : S e) : ErrIn S (.error e : Except ε α) := fun _ h' => Except.error.inj h' ▸ h

theorem ErrIn.of_eq {x : Except ε α} {e : ε} (h : ErrIn S x) (he : x = .error e) :
    ErrIn S (.error e : Except ε β) := .error (h e he)

theorem ErrIn.bind {x : Except ε α} {f : α → Except ε β} (hx : ErrIn S x) (hf : ∀ v, x = .ok v → ErrIn S (f v)) :
    ErrIn S (x >>= f) := by
  cases x with
  | ok v => exact hf v rfl
  | error e => exact hx.of_eq rfl

theorem ErrIn.ite {c : Prop} [Decidable c] {x y : Except ε α} (hx : ErrIn S x) (hy : ErrIn S y) :
    ErrIn S (if c then x else y) := by
  split <;> assumption

theorem ErrIn.map {x : Except ε α} (f : α → β) (hx : ErrIn S x) : ErrIn S (x.map f) := by
  cases x with
  | ok v => exact .ok _
  | error e => exact hx.of_eq rfl

theorem ErrIn.mapM {f : α → Except ε β} (hf : ∀ a, ErrIn S (f a)) (l : List α) : ErrIn S (l.mapM f) := by
  induction l with
  | nil => exact .ok _
  | cons a l ih => rw [List.mapM_cons]; exact (hf a).bind fun _ _ => ih.bind fun _ _ => .ok _

theorem ErrIn.foldlM {step : σ → α → Except ε σ} (h : ∀ s a, ErrIn S (step s a)) (l : List α) (s : σ) :
    ErrIn S (l.foldlM step s) := by
  induction l generalizing s with
  | nil => exact .ok _
  | cons a l ih => rw [List.foldlM_cons]; exact (h s a).bind fun _ _ => ih _

end Except

namespace Laze

/-! ### `mapM` in `Except` -/

section MapM
universe u v w
variable {ε : Type u} {α : Type w} {β : Type v} {f : α → Except ε β} {l : List α} {res : List β}

theorem mapM_ok_cons {a : α} :
    (a :: l).mapM f = .ok res ↔ ∃ b, f a = .ok b ∧ ∃ bs, l.mapM f = .ok bs ∧ b :: bs = res := by
  rw [List.mapM_cons]
  simp only [Except.bind_eq_ok, Except.pure_eq_ok]

theorem mapM_ok_iff_map : l.mapM f = .ok res ↔ l.map f = res.map .ok := by
  induction l generalizing res with
  | nil =>
    rw [List.mapM_nil, Except.pure_eq_ok, List.map_nil, eq_comm (b := res), List.nil_eq, List.map_eq_nil_iff]
  | cons a l ih =>
    rw [mapM_ok_cons, List.map_cons]
    constructor
    · rintro ⟨b, hb, bs, hbs, rfl⟩
      rw [hb, ih.1 hbs, List.map_cons]
    · intro h
      obtain ⟨b, bs, rfl, hb, hbs⟩ := List.map_eq_cons_iff.1 h.symm
      exact ⟨b, hb.symm, bs, ih.2 hbs.symm, rfl⟩

theorem mapM_ok_mem (h : l.mapM f = .ok res) {a : α} (ha : a ∈ l) : ∃ b ∈ res, f a = .ok b := by
  obtain ⟨b, hb, e⟩ := List.mem_map.1 (mapM_ok_iff_map.1 h ▸ List.mem_map_of_mem ha)
  exact ⟨b, hb, e.symm⟩

theorem mapM_ok_mem_right (h : l.mapM f = .ok res) {b : β} (hb : b ∈ res) : ∃ a ∈ l, f a = .ok b :=
  List.mem_map.1 (mapM_ok_iff_map.1 h ▸ List.mem_map_of_mem hb)

theorem mapM_ok_map_inv (h : l.mapM f = .ok res) (g : β → α) (hg : ∀ x y, f x = .ok y → g y = x) : res.map g = l := by
  induction l generalizing res with
  | nil => cases h; rfl
  | cons a l ih =>
    obtain ⟨b, hb, bs, hbs, rfl⟩ := mapM_ok_cons.1 h
    rw [List.map_cons, hg a b hb, ih hbs]

end MapM

end Laze
