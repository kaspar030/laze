import LazeModel.Model.ModuleEnv
import LazeModel.Lemmas.ExceptFold
/-! The loop of `build_env` is two independent folds: the env threads through `depEnvStep` (and may
    fail), the build-dep set through `addBuildDep` (and cannot). -/
namespace Laze

theorem buildEnvLoop_eq (deps : List Module) (m : Module) (env : Env) (bd : Option (List Name)) :
    buildEnvLoop deps m env bd =
      (deps.foldlM (fun e d => depEnvStep m d e) env).map
        (fun e => (e, deps.foldl (fun b d => addBuildDep m d b) bd)) := by
  fun_induction buildEnvLoop deps m env bd with
  | case1 => rfl
  | case2 dep deps m env bd e he => rw [List.foldlM_cons, he]; rfl
  | case3 dep deps m env bd env' he ih => rw [List.foldlM_cons, List.foldl_cons, he]; exact ih

theorem buildEnv_eq (r : Resolved) (m : Module) (genv : Env) :
    buildEnv r m genv =
      ((importedModules r m).foldlM (fun e d => depEnvStep m d e) genv).map fun e =>
        (finishEnv r m e, (importedModules r m).foldl (fun b d => addBuildDep m d b) none) := by
  unfold buildEnv
  rw [buildEnvLoop_eq]
  cases (importedModules r m).foldlM (fun e d => depEnvStep m d e) genv <;> rfl

theorem buildEnv_ok {r : Resolved} {m : Module} {genv : Env} {p : Env × Option (List Name)}
    (h : buildEnv r m genv = .ok p) :
    ∃ e, (importedModules r m).foldlM (fun e d => depEnvStep m d e) genv = .ok e ∧
      p = (finishEnv r m e, (importedModules r m).foldl (fun b d => addBuildDep m d b) none) := by
  rw [buildEnv_eq, Except.map_eq_ok] at h
  obtain ⟨e, he, rfl⟩ := h
  exact ⟨e, he, rfl⟩

end Laze
