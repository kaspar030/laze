import LazeModel.Model.Select
import LazeModel.Lemmas.GenSpec
import LazeModel.Lemmas.List
/-! `Generator::execute` (`Model/Select.lean`) in closed form: the selected binaries are two tests and a filter
    (`selectedBins_eq`), and a run is successful exactly when every selected tuple is configured without error; its
    result is then determined by the outcomes of the tuples (`generate_done`, `generate_done_of_all_ok`). -/
namespace Laze

/-! ### `selectedBins` -/

/-- the mode as a predicate on binaries -/
def modePred : Mode → Module → Bool
  | .global, _ => true
  | .local dir, m => m.relpath == dir

/-- `--apps` names something that is not a binary -/
def unknownApps (b : Bag) : Selector → Bool
  | .some l => l.any fun a => !(b.bins.any (·.name == a))
  | .all => false

/-- local mode with `--apps`: some selected binary lies outside the start directory and has no selected namesake inside -/
def outsideOnly (b : Bag) : Selector → Mode → Bool
  | .some as, .local dir =>
    (b.bins.filter fun m => as.contains m.name).any fun m => m.relpath != dir &&
      !((b.bins.filter fun m => as.contains m.name).any fun m' => m'.relpath == dir && m'.name == m.name)
  | _, _ => false

theorem selectedBins_eq (b : Bag) (apps : Selector) (mode : Mode) :
    selectedBins b apps mode =
      if unknownApps b apps then .error (.error "unknown binaries specified")
      else if outsideOnly b apps mode then .error (.error "binaries not defined in the current directory")
      else .ok ((b.bins.filter fun m => apps.selects m.name).filter (modePred mode)) := by
  unfold selectedBins unknownApps outsideOnly
  cases apps <;> cases mode <;> dsimp only [modePred, Selector.selects]
  · exact congrArg Except.ok (filter_true _).symm
  · rfl
  · exact ite_congr rfl (fun _ => rfl) (fun _ => congrArg Except.ok (filter_true _).symm)
  · rw [not_isEmpty_filter]
    rfl

theorem selectedBins_ok {b : Bag} {apps : Selector} {mode : Mode} {l : List Module} :
    selectedBins b apps mode = .ok l ↔ unknownApps b apps = false ∧ outsideOnly b apps mode = false ∧
      l = (b.bins.filter fun m => apps.selects m.name).filter (modePred mode) := by
  rw [selectedBins_eq]
  cases unknownApps b apps <;> cases outsideOnly b apps mode <;> simp [eq_comm]

theorem selectedBins_all (b : Bag) (mode : Mode) : selectedBins b .all mode = .ok (b.bins.filter (modePred mode)) :=
  selectedBins_ok.2 ⟨rfl, by cases mode <;> rfl, congrArg _ (filter_true b.bins).symm⟩

theorem selectedBins_all_global (b : Bag) : selectedBins b .all .global = .ok b.bins :=
  (selectedBins_all b .global).trans (congrArg Except.ok (filter_true _))

/-! ### `generate` -/

def Outcome.build? : Outcome → Option BuildInfo
  | .build i => some i
  | .noBuild _ => none

theorem Outcome.build?_eq_some {o : Outcome} {i : BuildInfo} : o.build? = some i ↔ o = .build i := by
  cases o with
  | build j => exact ⟨fun h => congrArg Outcome.build (Option.some.inj h), fun h => congrArg Outcome.build? h⟩
  | noBuild n => exact ⟨fun h => (by cases h), fun h => (by cases h)⟩

theorem mem_configureAll {ev st b cli} {tuples : List (Context × Module)} {x : Name × Name × Except GErr Outcome} :
    x ∈ configureAll ev st b cli tuples ↔
      ∃ c m, (c, m) ∈ tuples ∧ x = (c.name, m.name, configureBuild ev st b c.name m cli) := by
  unfold configureAll
  rw [List.mem_map]
  exact ⟨fun ⟨⟨c, m⟩, hm, he⟩ => ⟨c, m, hm, he.symm⟩, fun ⟨c, m, hm, he⟩ => ⟨(c, m), hm, he.symm⟩⟩

/-- the fold of `generate` over the builds is one `addEntries` -/
theorem foldl_addEntries_flatMap {β} (f : β → List String) (l : List β) (es : List String) :
    l.foldl (fun es i => addEntries es (f i)) es = addEntries es (l.flatMap f) := by
  unfold addEntries
  rw [List.foldl_flatMap]

theorem failuresOf_eq_nil {l : List (Name × Name × Except GErr Outcome)} :
    failuresOf l = [] ↔ ∀ x ∈ l, ∃ o, x.2.2 = .ok o := by
  unfold failuresOf
  rw [List.filterMap_eq_nil_iff]
  refine forall₂_congr fun x _ => ?_
  obtain ⟨bn, an, r⟩ := x
  cases r with
  | ok o => exact ⟨fun _ => ⟨o, rfl⟩, fun _ => rfl⟩
  | error e => exact ⟨fun h => (by cases h), fun ⟨_, h⟩ => (by cases h)⟩

/-- what a successful `generate` returns; the second conjunct says that every selected tuple was configured without error -/
theorem generate_done {ev h st b a r} (hg : generate ev h st b a = .ok (.done r)) :
    ∃ tuples, buildTuples h b a = .ok tuples ∧
      configureAll ev st b a.cli tuples = r.outcomes.map (fun x => (x.1, x.2.1, .ok x.2.2)) ∧
      r.builds = r.outcomes.filterMap (·.2.2.build?) ∧
      r.entries = dedup (r.builds.flatMap (·.entries)) := by
  unfold generate at hg
  obtain ⟨tuples, ht, hg⟩ := Except.bind_eq_ok.1 hg
  refine ⟨tuples, ht, ?_⟩
  dsimp only at hg
  split at hg
  · rename_i hf
    cases hg
    refine ⟨(map_filterMap_of_inv_mem fun x hx => ?_).symm, ?_,
      (foldl_addEntries_flatMap _ _ _).trans (dedup_eq_addEntries _).symm⟩
    · obtain ⟨o, ho⟩ := failuresOf_eq_nil.1 hf x hx
      obtain ⟨bn, an, r⟩ := x
      cases ho
      rfl
    · exact congrArg (List.filterMap · _) (funext fun ⟨_, _, o⟩ => by cases o <;> rfl)
  · cases hg

theorem generate_entries {ev h st b a r} (hg : generate ev h st b a = .ok (.done r)) :
    r.entries = dedup (r.builds.flatMap (·.entries)) :=
  (generate_done hg).elim fun _ h => h.2.2.2

theorem mem_generate_entries {ev h st b a r} (hg : generate ev h st b a = .ok (.done r)) {x : String} :
    x ∈ r.entries ↔ ∃ i ∈ r.builds, x ∈ i.entries := by
  rw [generate_entries hg, mem_dedup, List.mem_flatMap]

theorem generate_done_of_all_ok {ev h st b a t} (ht : buildTuples h b a = .ok t)
    (hall : ∀ c m, (c, m) ∈ t → ∃ o, configureBuild ev st b c.name m a.cli = .ok o) :
    ∃ r, generate ev h st b a = .ok (.done r) := by
  have hf : failuresOf (configureAll ev st b a.cli t) = [] := by
    refine failuresOf_eq_nil.2 fun x hx => ?_
    obtain ⟨c, m, hm, rfl⟩ := mem_configureAll.1 hx
    exact hall c m hm
  unfold generate
  rw [ht]
  simp only [bind, Except.bind, hf]
  exact ⟨_, rfl⟩

section
variable {ev : EvalExpr} {h : String → Nat} {st : Settings} {b : Bag} {a : Args} {r : GenResult}
  {t : List (Context × Module)}

theorem generate_tuple {c : Context} {m : Module} (hg : generate ev h st b a = .ok (.done r))
    (ht : buildTuples h b a = .ok t) (hm : (c, m) ∈ t) :
    ∃ o, configureBuild ev st b c.name m a.cli = .ok o ∧ (c.name, m.name, o) ∈ r.outcomes ∧
      ∀ i, o = .build i → i ∈ r.builds := by
  obtain ⟨t', ht', hall, hb, _⟩ := generate_done hg
  cases ht.symm.trans ht'
  obtain ⟨⟨bn, an, o⟩, hx, he⟩ := List.mem_map.1 (hall ▸ mem_configureAll.2 ⟨c, m, hm, rfl⟩)
  obtain ⟨rfl, he⟩ := Prod.mk.inj he
  obtain ⟨rfl, ho⟩ := Prod.mk.inj he
  exact ⟨o, ho.symm, hx, fun i hi => hb ▸ List.mem_filterMap.2 ⟨_, hx, Outcome.build?_eq_some.2 hi⟩⟩

theorem generate_build_origin (hg : generate ev h st b a = .ok (.done r)) (ht : buildTuples h b a = .ok t)
    {i : BuildInfo} (hi : i ∈ r.builds) :
    ∃ c m, (c, m) ∈ t ∧ configureBuild ev st b c.name m a.cli = .ok (.build i) := by
  obtain ⟨t', ht', hall, hb, _⟩ := generate_done hg
  cases ht.symm.trans ht'
  obtain ⟨x, hx, ho⟩ := List.mem_filterMap.1 (hb ▸ hi)
  obtain ⟨c, m, hm, he⟩ := mem_configureAll.1 (hall ▸ List.mem_map_of_mem hx)
  exact ⟨c, m, hm, Outcome.build?_eq_some.1 ho ▸ (Prod.mk.inj (Prod.mk.inj he).2).2.symm⟩

end

end Laze
