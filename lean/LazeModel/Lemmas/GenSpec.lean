import LazeModel.Model.Gen
import LazeModel.Lemmas.OrderedSet
import LazeModel.Lemmas.Assoc
import LazeModel.Lemmas.ExceptFold
/-! What success of each step of `configure_build` (`Model/Gen.lean`) means: one inversion lemma per function, from
    `compileSource` up to `configureBuild`; the two loops over a module's sources as `mapM` followed by a pure fold; and
    the one thing every step does to the loop state (`LoopState.Le`). Theorem files start from these. -/
namespace Laze
open Laze

/-! ### the entry set (`addEntry` is `setAdd`) -/

theorem mem_addEntry {es : List String} {e x : String} : x ∈ addEntry es e ↔ x ∈ es ∨ x = e := mem_setAdd
theorem mem_addEntries {es l : List String} {x : String} : x ∈ addEntries es l ↔ x ∈ es ∨ x ∈ l :=
  mem_foldl_setAdd
theorem prefix_addEntry (es : List String) (e : String) : es <+: addEntry es e := prefix_setAdd es e
theorem prefix_addEntries (es l : List String) : es <+: addEntries es l := prefix_foldl_setAdd l es
theorem nodup_addEntry {es : List String} (h : es.Nodup) (e : String) : (addEntry es e).Nodup := nodup_setAdd h e
theorem nodup_addEntries {es : List String} (h : es.Nodup) (l : List String) : (addEntries es l).Nodup :=
  nodup_foldl_setAdd h
theorem addEntries_append (es l₁ l₂ : List String) :
    addEntries es (l₁ ++ l₂) = addEntries (addEntries es l₁) l₂ := List.foldl_append
theorem dedup_eq_addEntries (l : List String) : dedup l = addEntries [] l := rfl

/-! ### results of expansion -/

theorem unwrapX_ok {α : Type} {site : String} {x : Except XErr α} {v : α}
    (h : unwrapX site x = .ok v) : x = .ok v := by
  unfold unwrapX at h
  split at h <;> cases h
  rfl

/-! ### one source

An inversion lemma `f_ok` is the case principle of `f` (`fun_cases f …`) read at a successful result: one case per way through
`f`'s `match`es, with the equations that lead there; the cases that end in `.error` contradict `h`. -/

section Source
variable {ev : EvalExpr} {st : Settings} {builder appName : Name} {rules : List (String × Rule)}
  {mrules : List (String × NinjaRule)} {flat : Flat} {srcdir : String}
  {combined localDeps : Option (List String)} {srcTagfile : Option String}

theorem ruleForSource_ok {s : String} {en : String × NinjaRule}
    (h : ruleForSource ev rules flat s = .ok en) :
    ∃ rule, pathExtension s = some en.1 ∧ rulesGet rules en.1 = some rule ∧
      ruleToNinja ev rule flat = .ok en.2 := by
  revert h
  fun_cases ruleForSource ev rules flat s with
  | case1 | case2 | case3 => intro h; cases h
  | case4 ext hext rule hrule nr hnr => intro h; cases h; exact ⟨rule, hext, hrule, hnr⟩

theorem ruleForSource_eq {s ext : String} {rule : Rule} {nr : NinjaRule} (h1 : pathExtension s = some ext)
    (h2 : rulesGet rules ext = some rule) (h3 : ruleToNinja ev rule flat = .ok nr) :
    ruleForSource ev rules flat s = .ok (ext, nr) := by
  unfold ruleForSource
  rw [h1]
  dsimp only
  rw [h2]
  dsimp only
  rw [h3]

theorem lookupCompileRule_some {ext : String} {rn : Rule × NinjaRule}
    (h : lookupCompileRule rules mrules ext = some rn) :
    rulesGet rules ext = some rn.1 ∧ (mrules.find? (·.1 == ext)).map (·.2) = some rn.2 := by
  revert h
  fun_cases lookupCompileRule rules mrules ext with
  | case1 | case2 => intro h; cases h
  | case3 rule hr nr hf => intro h; cases h; exact ⟨hr, hf⟩

theorem lookupCompileRule_eq_some {ext : String} {rule : Rule} {nr : NinjaRule} (h₁ : rulesGet rules ext = some rule)
    (h₂ : (mrules.find? (·.1 == ext)).map (·.2) = some nr) : lookupCompileRule rules mrules ext = some (rule, nr) := by
  unfold lookupCompileRule
  rw [h₁, h₂]

theorem compileSource_ok {s : String} {os : String × List String}
    (h : compileSource ev st builder appName rules mrules flat srcdir combined localDeps srcTagfile s = .ok os) :
    ∃ srcpath ext rule nr out,
      expandSrcPath ev flat srcdir s = .ok srcpath ∧
      pathExtension srcpath = some ext ∧
      rulesGet rules ext = some rule ∧
      (mrules.find? (·.1 == ext)).map (·.2) = some nr ∧
      rule.out = some out ∧
      os.1 = objectPath st builder appName rule nr (depsHashOf combined) out srcpath ∧
      os.2 = (buildFromRule nr (some [srcpath]) [os.1] combined).render ::
                sourceDepStmts localDeps srcTagfile srcpath := by
  revert h
  fun_cases compileSource ev st builder appName rules mrules flat srcdir combined localDeps srcTagfile s with
  | case1 => intro h; cases h
  | case2 srcpath hsp =>
    fun_cases compileStmts st builder appName rules mrules combined localDeps srcTagfile srcpath with
    | case1 | case2 | case3 => intro h; cases h
    | case4 ext hext rn hrn out hout =>
      intro h
      -- the object path is made a variable first: closing `os.1 = objectPath …` by `rfl` makes the unifier unfold
      -- `objectPath`, which is dear
      generalize hobj : objectPath st builder appName rn.1 rn.2 (depsHashOf combined) out srcpath = obj at h
      obtain rfl := Except.ok.inj h
      obtain ⟨h1, h2⟩ := lookupCompileRule_some hrn
      exact ⟨srcpath, ext, rn.1, rn.2, out, hsp, hext, h1, h2, hout, hobj.symm, rfl⟩

theorem compileSource_eq {s srcpath ext out : String} {rule : Rule} {nr : NinjaRule}
    (h1 : expandSrcPath ev flat srcdir s = .ok srcpath) (h2 : pathExtension srcpath = some ext)
    (h3 : rulesGet rules ext = some rule) (h4 : (mrules.find? (·.1 == ext)).map (·.2) = some nr)
    (h5 : rule.out = some out) :
    compileSource ev st builder appName rules mrules flat srcdir combined localDeps srcTagfile s =
      .ok (compileOut nr combined localDeps srcTagfile srcpath
            (objectPath st builder appName rule nr (depsHashOf combined) out srcpath)) := by
  unfold compileSource
  rw [h1]
  dsimp only
  unfold compileStmts lookupCompileRule
  rw [h2]
  dsimp only
  rw [h3]
  dsimp only
  rw [h4]
  dsimp only
  rw [h5]

/-! ### the two loops over the sources: neither step reads the state, so each loop is `mapM`, then a fold -/

theorem mem_addModuleRule {mrules : List (String × NinjaRule)} {ext : String} {nr : NinjaRule} {p : String × NinjaRule}
    (h : p ∈ addModuleRule mrules ext nr) : p ∈ mrules ∨ p = (ext, nr) := by
  unfold addModuleRule at h
  split at h
  · exact Or.inl h
  · simpa using h

/-- `entry(ext).or_insert(nr)` adds nothing but what it is given -/
theorem mem_foldl_addModuleRule {ens acc : List (String × NinjaRule)} {p : String × NinjaRule}
    (h : p ∈ ens.foldl (fun t en => addModuleRule t en.1 en.2) acc) : p ∈ acc ∨ p ∈ ens := by
  induction ens generalizing acc with
  | nil => exact .inl h
  | cons en ens ih =>
    rcases ih h with h' | h'
    · rcases mem_addModuleRule h' with h' | rfl
      · exact .inl h'
      · exact .inr List.mem_cons_self
    · exact .inr (List.mem_cons_of_mem _ h')

theorem moduleRulesLoop_eq (ss entries : List String) (mrules : List (String × NinjaRule)) :
    moduleRulesLoop ev rules flat ss entries mrules =
      (ss.mapM (ruleForSource ev rules flat)).map fun ens =>
        (addEntries entries (ens.map (·.2.render)), ens.foldl (fun t en => addModuleRule t en.1 en.2) mrules) := by
  fun_induction moduleRulesLoop ev rules flat ss entries mrules with
  | case1 => rfl
  | case2 s ss entries mrules e he => rw [List.mapM_cons, he]; rfl
  | case3 s ss entries mrules en hen ih =>
    rw [List.mapM_cons, hen, ih]
    cases ss.mapM (ruleForSource ev rules flat) <;> rfl

theorem compileSourcesLoop_eq (ss entries objects : List String) :
    compileSourcesLoop ev st builder appName rules mrules flat srcdir combined localDeps srcTagfile ss entries objects =
      (ss.mapM (compileSource ev st builder appName rules mrules flat srcdir combined localDeps srcTagfile)).map
        fun res => (addEntries entries (res.flatMap (·.2)), objects ++ res.map (·.1)) := by
  fun_induction compileSourcesLoop ev st builder appName rules mrules flat srcdir combined localDeps srcTagfile
    ss entries objects with
  | case1 entries objects => exact congrArg (fun o => Except.ok (entries, o)) (List.append_nil objects).symm
  | case2 s ss entries objects e he => rw [List.mapM_cons, he]; rfl
  | case3 s ss entries objects os hos ih =>
    rw [List.mapM_cons, hos, ih]
    cases ss.mapM (compileSource ev st builder appName rules mrules flat srcdir combined localDeps srcTagfile) with
    | error e => rfl
    | ok res => exact congrArg Except.ok (Prod.ext (addEntries_append ..).symm (List.append_assoc ..))

/-- a module without a `build:` section: the rule blocks of ALL its sources are added before the statements of any source -/
theorem defaultBuildStep_ok {sources : List String} {ls ls' : LoopState}
    (h : defaultBuildStep ev st builder appName rules flat srcdir sources combined localDeps srcTagfile ls = .ok ls') :
    ∃ ens res, sources.mapM (ruleForSource ev rules flat) = .ok ens ∧
      sources.mapM (compileSource ev st builder appName rules (ens.foldl (fun t en => addModuleRule t en.1 en.2) [])
        flat srcdir combined localDeps srcTagfile) = .ok res ∧
      ls' = { ls with entries := addEntries ls.entries (ens.map (·.2.render) ++ res.flatMap (·.2)),
                      objects := ls.objects ++ res.map (·.1) } := by
  revert h
  fun_cases defaultBuildStep ev st builder appName rules flat srcdir sources combined localDeps srcTagfile ls with
  | case1 | case2 => intro h; cases h
  | case3 em hem eo heo =>
    intro h
    cases h
    rw [moduleRulesLoop_eq] at hem
    obtain ⟨ens, hens, rfl⟩ := Except.map_eq_ok.1 hem
    rw [compileSourcesLoop_eq] at heo
    obtain ⟨res, hres, rfl⟩ := Except.map_eq_ok.1 heo
    exact ⟨ens, res, hens, hres, by rw [addEntries_append]⟩

theorem defaultBuildStep_mem {sources : List String} {ls ls' : LoopState}
    (h : defaultBuildStep ev st builder appName rules flat srcdir sources combined localDeps srcTagfile ls = .ok ls') :
    ∃ mrules, ∀ s ∈ sources, ∃ os,
      compileSource ev st builder appName rules mrules flat srcdir combined localDeps srcTagfile s = .ok os ∧
      os.2 ⊆ ls'.entries ∧ os.1 ∈ ls'.objects := by
  obtain ⟨ens, res, _, hres, rfl⟩ := defaultBuildStep_ok h
  refine ⟨ens.foldl (fun t en => addModuleRule t en.1 en.2) [], fun s hs => ?_⟩
  obtain ⟨os, hos, hs⟩ := mapM_ok_mem hres hs
  exact ⟨os, hs, fun e he => mem_addEntries.2 (.inr (List.mem_append_right _ (List.mem_flatMap.2 ⟨os, hos, he⟩))),
    List.mem_append_right _ (List.mem_map.2 ⟨os, hos, rfl⟩)⟩

end Source

/-! ### one module -/

section Module
variable {ev : EvalExpr} {st : Settings} {builder : Name} {rules : List (String × Rule)} {flat : Flat}
  {srcdir : String}

theorem customBuildStep_ok {m : Module} {sources : List String} {combined : Option (List String)} {cb : CustomBuild}
    {ls ls' : LoopState} (h : customBuildStep ev flat m srcdir sources combined cb ls = .ok ls') :
    ∃ cmd0 cmd srcs outs,
      unwrapX "generate.rs:custom build cmd"
        (expandEvalS ev flat .empty (" && ".intercalate (cb.cmd.map trimLineEnd))) = .ok cmd0 ∧
      customCmd cb cmd0 = .ok cmd ∧
      sources.mapM (customSource ev flat srcdir) = .ok srcs ∧
      (cb.out.getD []).mapM (customOut ev flat) = .ok outs ∧
      ls' = { ls with files := ls.files.extend m.name [outsAlias outs],
                      entries := addEntries ls.entries (customStmts cb cmd srcs outs combined) } := by
  unfold customBuildStep at h
  split at h
  · cases h
  unfold customBuildStepCore at h
  simp only [Except.bind_eq_ok, Except.pure_eq_ok] at h
  obtain ⟨cmd0, h0, cmd, h1, srcs, h2, outs, h3, rfl⟩ := h
  exact ⟨cmd0, cmd, srcs, outs, h0, h1, h2, h3, rfl⟩

theorem downloadStep_ok {m : Module} {ls : LoopState} {lt : LoopState × Option String}
    (h : downloadStep ev m srcdir rules flat ls = .ok lt) :
    (∃ d es, m.download = some d ∧ downloadEntries ev m d rules flat = .ok es ∧
      lt = ({ ls with entries := addEntries ls.entries es,
                      downloadDirs := insertKeyed ls.downloadDirs srcdir (d.tagfile srcdir) }, none)) ∨
    (∃ sd, m.download = none ∧ unwrapX "generate.rs:srcdir" (expandEvalS ev flat .ignore srcdir) = .ok sd ∧
      lt = (ls, containingPath ls.downloadDirs sd)) := by
  revert h
  fun_cases downloadStep ev m srcdir rules flat ls with
  | case1 | case3 => intro h; cases h
  | case2 d hd es hes => intro h; cases h; exact .inl ⟨d, es, hd, hes, rfl⟩
  | case4 hd sd hsd => intro h; cases h; exact .inr ⟨sd, hd, hsd, rfl⟩

theorem downloadStep_files {m : Module} {ls : LoopState} {lt : LoopState × Option String}
    (h : downloadStep ev m srcdir rules flat ls = .ok lt) : lt.1.files = ls.files ∧ lt.1.objects = ls.objects := by
  rcases downloadStep_ok h with ⟨_, _, _, _, rfl⟩ | ⟨_, _, _, rfl⟩ <;> exact ⟨rfl, rfl⟩

theorem registerLocalDeps_objects (m : Module) (ls : LoopState) : (registerLocalDeps m ls).objects = ls.objects := by
  unfold registerLocalDeps
  split <;> rfl

theorem buildStep_custom {appName : Name} {m : Module} {sources : List String} {combined : Option (List String)}
    {srcTagfile : Option String} {ls : LoopState} {cb : CustomBuild} (hb : m.build = some cb) :
    buildStep ev st builder appName rules flat m srcdir sources combined srcTagfile ls =
      customBuildStep ev flat m srcdir sources combined cb ls := by
  unfold buildStep; rw [hb]

theorem buildStep_default {appName : Name} {m : Module} {sources : List String} {combined : Option (List String)}
    {srcTagfile : Option String} {ls : LoopState} (hb : m.build = none) :
    buildStep ev st builder appName rules flat m srcdir sources combined srcTagfile ls =
      defaultBuildStep ev st builder appName rules flat srcdir sources combined m.buildDepFiles srcTagfile ls := by
  unfold buildStep; rw [hb]

theorem moduleStmts_ok {app : Module} {r : Resolved} {globals : List Name} {m : Module} {bdeps : Option (List Name)}
    {ls ls' : LoopState} (h : moduleStmts ev st builder app r rules globals m bdeps srcdir flat ls = .ok ls') :
    ∃ lt imported, downloadStep ev m srcdir rules flat ls = .ok lt ∧
      importedOf lt.1.files (effBuildDeps globals m bdeps) = .ok imported ∧
      buildStep ev st builder app.name rules flat m srcdir (effSources r m)
        (combinedDeps imported m.buildDepFiles) lt.2 (registerLocalDeps m lt.1) = .ok ls' := by
  revert h
  fun_cases moduleStmts ev st builder app r rules globals m bdeps srcdir flat ls with
  | case1 | case2 => intro h; cases h
  | case3 lt hlt imported himp => exact fun h => ⟨lt, imported, hlt, himp, h⟩

/-- a context module (`srcdir = none`) is skipped -/
theorem moduleStep_ok {app : Module} {r : Resolved} {opts : Option VarOpts} {globals : List Name} {m : Module}
    {menv : Env} {bdeps : Option (List Name)} {ls : LoopState} {lf : LoopState × Option (Name × Flat)}
    (h : moduleStep ev st builder app r rules opts globals m menv bdeps ls = .ok lf) :
    (m.srcdir = none ∧ lf = (ls, none)) ∨
    ∃ srcdir flat, m.srcdir = some srcdir ∧ moduleFlat opts menv = .ok flat ∧
      moduleStmts ev st builder app r rules globals m bdeps srcdir flat ls = .ok lf.1 ∧
      lf.2 = some (m.name, flat) := by
  revert h
  fun_cases moduleStep ev st builder app r rules opts globals m menv bdeps ls with
  | case1 hs => intro h; cases h; exact .inl ⟨hs, rfl⟩
  | case2 | case3 => intro h; cases h
  | case4 srcdir hs flat hflat ls' hls' => intro h; cases h; exact .inr ⟨srcdir, flat, hs, hflat, hls', rfl⟩

end Module

/-! ### what a step does to the loop state -/

theorem FileTable.get?_extend (t : FileTable) (n x : Name) (l : List String) :
    (t.extend n l).get? x = if x = n then some (dedup (t.getD n ++ l)) else t.get? x :=
  C09.lk_upsert t n x (fun o => dedup (o.getD [] ++ l))

theorem FileTable.mem_getD_extend {t : FileTable} {n x : Name} {l : List String} {f : String} :
    f ∈ (t.extend n l).getD x ↔ f ∈ t.getD x ∨ (x = n ∧ f ∈ l) := by
  rw [FileTable.getD, FileTable.get?_extend]
  by_cases hx : x = n
  · subst hx; simp [mem_dedup, FileTable.getD]
  · simp [hx, FileTable.getD]

/-- statements are only added to the entry set, files only registered -/
structure LoopState.Le (a b : LoopState) : Prop where
  entries : ∃ l, b.entries = addEntries a.entries l
  files : ∀ n f, f ∈ a.files.getD n → f ∈ b.files.getD n

namespace LoopState.Le

theorem refl (a : LoopState) : a.Le a := ⟨⟨[], rfl⟩, fun _ _ h => h⟩

theorem trans {a b c : LoopState} (h₁ : a.Le b) (h₂ : b.Le c) : a.Le c := by
  obtain ⟨l₁, e₁⟩ := h₁.entries
  obtain ⟨l₂, e₂⟩ := h₂.entries
  exact ⟨⟨l₁ ++ l₂, by rw [e₂, e₁, addEntries_append]⟩, fun n f h => h₂.files n f (h₁.files n f h)⟩

/-- for a state given by its fields, `l` found by unification. (Proving `b.entries = addEntries a.entries l` by `rfl`
    for a structure instance `b` is dear: the unifier unfolds `addEntries` before it reduces the projection.) -/
theorem intro {a : LoopState} {l es os : List String} {fs : FileTable} {dd : List (String × String)}
    (he : es = addEntries a.entries l) (hf : ∀ n f, f ∈ a.files.getD n → f ∈ fs.getD n) :
    a.Le ⟨es, os, fs, dd⟩ := ⟨⟨l, he⟩, hf⟩

theorem isPrefix {a b : LoopState} (h : a.Le b) : a.entries <+: b.entries := by
  obtain ⟨l, e⟩ := h.entries
  exact e ▸ prefix_addEntries _ _

theorem subset {a b : LoopState} (h : a.Le b) : a.entries ⊆ b.entries := h.isPrefix.subset

theorem nodup {a b : LoopState} (h : a.Le b) (hn : a.entries.Nodup) : b.entries.Nodup := by
  obtain ⟨l, e⟩ := h.entries
  exact e ▸ nodup_addEntries hn l

end LoopState.Le

theorem registerLocalDeps_le (m : Module) (ls : LoopState) : ls.Le (registerLocalDeps m ls) := by
  unfold registerLocalDeps
  split
  · exact .intro (l := []) rfl fun _ _ h => FileTable.mem_getD_extend.2 (.inl h)
  · exact .refl _

section Le
variable {ev : EvalExpr} {st : Settings} {builder : Name} {rules : List (String × Rule)}

theorem downloadStep_le {m : Module} {srcdir : String} {flat : Flat} {ls : LoopState} {lt : LoopState × Option String}
    (h : downloadStep ev m srcdir rules flat ls = .ok lt) : ls.Le lt.1 := by
  rcases downloadStep_ok h with ⟨d, es, _, _, rfl⟩ | ⟨sd, _, _, rfl⟩
  · exact .intro rfl fun _ _ h => h
  · exact .refl _

theorem buildStep_le {appName : Name} {flat : Flat} {m : Module} {srcdir : String} {sources : List String}
    {combined : Option (List String)} {srcTagfile : Option String} {ls ls' : LoopState}
    (h : buildStep ev st builder appName rules flat m srcdir sources combined srcTagfile ls = .ok ls') : ls.Le ls' := by
  cases hb : m.build with
  | some cb =>
    rw [buildStep_custom hb] at h
    obtain ⟨_, _, _, _, _, _, _, _, rfl⟩ := customBuildStep_ok h
    exact .intro rfl fun _ _ h => FileTable.mem_getD_extend.2 (.inl h)
  | none =>
    rw [buildStep_default hb] at h
    obtain ⟨_, _, _, _, rfl⟩ := defaultBuildStep_ok h
    exact .intro rfl fun _ _ h => h

theorem moduleStmts_le {app : Module} {r : Resolved} {globals : List Name} {m : Module} {bdeps : Option (List Name)}
    {srcdir : String} {flat : Flat} {ls ls' : LoopState}
    (h : moduleStmts ev st builder app r rules globals m bdeps srcdir flat ls = .ok ls') : ls.Le ls' := by
  obtain ⟨lt, _, hlt, _, hbs⟩ := moduleStmts_ok h
  exact ((downloadStep_le hlt).trans (registerLocalDeps_le m lt.1)).trans (buildStep_le hbs)

theorem moduleStep_le {app : Module} {r : Resolved} {opts : Option VarOpts} {globals : List Name} {m : Module}
    {menv : Env} {bdeps : Option (List Name)} {ls : LoopState} {lf : LoopState × Option (Name × Flat)}
    (h : moduleStep ev st builder app r rules opts globals m menv bdeps ls = .ok lf) : ls.Le lf.1 := by
  rcases moduleStep_ok h with ⟨_, rfl⟩ | ⟨_, _, _, _, hst, _⟩
  · exact .refl _
  · exact moduleStmts_le hst

/-! ### the module loop -/

variable {app : Module} {r : Resolved} {opts : Option VarOpts} {globals : List Name} {menvs : List ModEnv}

theorem modulesLoop_cons_ok {n : Name} {ns : List Name} {ls : LoopState} {mf : List (Name × Flat)}
    {res : LoopState × List (Name × Flat)}
    (h : modulesLoop ev st builder app r rules opts globals menvs (n :: ns) ls mf = .ok res) :
    ∃ me lf, menvs.find? (·.1.name == n) = some me ∧
      moduleStep ev st builder app r rules opts globals me.1 me.2.1 me.2.2 ls = .ok lf ∧
      modulesLoop ev st builder app r rules opts globals menvs ns lf.1 (appendFlat mf lf.2) = .ok res := by
  unfold modulesLoop at h
  split at h
  · cases h
  · rename_i me hme
    split at h
    · cases h
    · rename_i lf hlf
      exact ⟨me, lf, hme, hlf, h⟩

theorem modulesLoop_append_ok {l₁ l₂ : List Name} {ls : LoopState} {mf : List (Name × Flat)}
    {res : LoopState × List (Name × Flat)}
    (h : modulesLoop ev st builder app r rules opts globals menvs (l₁ ++ l₂) ls mf = .ok res) :
    ∃ mid, modulesLoop ev st builder app r rules opts globals menvs l₁ ls mf = .ok mid ∧
      modulesLoop ev st builder app r rules opts globals menvs l₂ mid.1 mid.2 = .ok res := by
  induction l₁ generalizing ls mf with
  | nil => exact ⟨(ls, mf), rfl, h⟩
  | cons n ns ih =>
    obtain ⟨me, lf, hme, hlf, h⟩ := modulesLoop_cons_ok h
    obtain ⟨mid, h1, h2⟩ := ih h
    refine ⟨mid, ?_, h2⟩
    unfold modulesLoop
    rw [hme]
    dsimp only
    rw [hlf]
    exact h1

theorem modulesLoop_le {order : List Name} {ls : LoopState} {mf : List (Name × Flat)}
    {res : LoopState × List (Name × Flat)}
    (h : modulesLoop ev st builder app r rules opts globals menvs order ls mf = .ok res) : ls.Le res.1 := by
  induction order generalizing ls mf with
  | nil => cases h; exact .refl _
  | cons n ns ih =>
    obtain ⟨_, _, _, hlf, h⟩ := modulesLoop_cons_ok h
    exact (moduleStep_le hlf).trans (ih h)

end Le

/-! ### link, post-link, result -/

section Finish
variable {ev : EvalExpr} {st : Settings} {b : Bag} {builder : Name} {app : Module} {r : Resolved}
  {rules : List (String × Rule)} {gflat : Flat} {outfile : String}

theorem linkStep_ok {globals : List Name} {ls : LoopState} {entries : List String}
    (h : linkStep ev rules gflat globals outfile ls = .ok entries) :
    ∃ lr linkRule, rulesByName rules "LINK" = some lr ∧ ruleToNinja ev lr gflat = .ok linkRule ∧
      entries = addEntries ls.entries
        [linkRule.render,
         (buildFromRule linkRule (some ls.objects) [outfile] (globalDepFiles globals ls.files)).render] := by
  revert h
  fun_cases linkStep ev rules gflat globals outfile ls with
  | case1 | case2 => intro h; cases h
  | case3 lr hlr linkRule hl => intro h; cases h; exact ⟨lr, linkRule, hlr, hl, rfl⟩

theorem postLinkStep_ok {entries : List String} {eo : List String × String}
    (h : postLinkStep ev rules gflat outfile entries = .ok eo) :
    (rulesByName rules "POST_LINK" = none ∧ eo = (entries, outfile)) ∨
    ∃ pr ext pl, rulesByName rules "POST_LINK" = some pr ∧ pr.out = some ext ∧ ruleToNinja ev pr gflat = .ok pl ∧
      eo = (addEntries entries
              [pl.render, (buildFromRule pl (some [outfile]) [pathWithExtension outfile ext] none).render],
            pathWithExtension outfile ext) := by
  revert h
  fun_cases postLinkStep ev rules gflat outfile entries with
  | case1 hn => intro h; cases h; exact .inl ⟨hn, rfl⟩
  | case2 | case3 => intro h; cases h
  | case4 pr hpr ext hext pl hpl => intro h; cases h; exact .inr ⟨pr, ext, pl, hpr, hext, hpl, rfl⟩

theorem postLinkStep_adds {entries : List String} {eo : List String × String}
    (h : postLinkStep ev rules gflat outfile entries = .ok eo) : ∃ l, eo.1 = addEntries entries l := by
  rcases postLinkStep_ok h with ⟨_, rfl⟩ | ⟨_, _, _, _, _, _, rfl⟩
  · exact ⟨[], rfl⟩
  · exact ⟨_, rfl⟩

theorem finishBuild_ok {globals : List Name} {ls : LoopState} {mflats : List (Name × Flat)} {i : BuildInfo}
    (h : finishBuild ev b builder app r rules gflat outfile globals ls mflats = .ok i) :
    ∃ entries1 eo tasks, linkStep ev rules gflat globals outfile ls = .ok entries1 ∧
      postLinkStep ev rules gflat outfile entries1 = .ok eo ∧
      collectTasks ev b builder (gflat.insert "out" eo.2) r = .ok tasks ∧
      i = mkBuildInfo builder app r eo.2 gflat mflats tasks eo.1 := by
  revert h
  fun_cases finishBuild ev b builder app r rules gflat outfile globals ls mflats with
  | case1 | case2 | case3 => intro h; cases h
  | case4 entries1 hlink eo hpost tasks htasks =>
    intro h; cases h; exact ⟨entries1, eo, tasks, hlink, hpost, htasks, rfl⟩

/-! ### `configure_build` -/

theorem configureOrdered_ok {opts : Option VarOpts} {menvs : List ModEnv} {o : Outcome}
    (h : configureOrdered ev st b builder app r rules opts gflat outfile menvs = .ok o) :
    (buildOrder (menvs.map ModEnv.deps) = none ∧ o = .noBuild .depCycle) ∨
    ∃ order ls mflats i, buildOrder (menvs.map ModEnv.deps) = some order ∧
      modulesLoop ev st builder app r rules opts (globalBuildDeps r) menvs order {} [] = .ok (ls, mflats) ∧
      finishBuild ev b builder app r rules gflat outfile (globalBuildDeps r) ls mflats = .ok i ∧ o = .build i := by
  revert h
  fun_cases configureOrdered ev st b builder app r rules opts gflat outfile menvs with
  | case1 hbo => intro h; cases h; exact .inl ⟨hbo, rfl⟩
  | case2 | case3 => intro h; cases h
  | case4 order hbo lm hlm i hfin => intro h; cases h; exact .inr ⟨order, lm.1, lm.2, i, hbo, hlm, hfin, rfl⟩

theorem configureOrdered_build {opts : Option VarOpts} {menvs : List ModEnv} {i : BuildInfo}
    (h : configureOrdered ev st b builder app r rules opts gflat outfile menvs = .ok (.build i)) :
    ∃ order ls mflats, buildOrder (menvs.map ModEnv.deps) = some order ∧
      modulesLoop ev st builder app r rules opts (globalBuildDeps r) menvs order {} [] = .ok (ls, mflats) ∧
      finishBuild ev b builder app r rules gflat outfile (globalBuildDeps r) ls mflats = .ok i := by
  rcases configureOrdered_ok h with ⟨_, h'⟩ | ⟨order, ls, mflats, _, h1, h2, h3, h'⟩
  · cases h'
  · cases h'
    exact ⟨order, ls, mflats, h1, h2, h3⟩

theorem configureSelection_ok {cli : Cli} {o : Outcome}
    (h : configureSelection ev st b builder app cli r = .ok o) :
    ∃ gflat outfile menvs,
      globalFlat (builderVarOpts b builder) (globalEnv st b builder app r cli) = .ok gflat ∧
      expandS gflat .empty "${outfile}" = .ok outfile ∧
      moduleEnvs r (globalEnv st b builder app r cli) r.modules = .ok menvs ∧
      configureOrdered ev st b builder app r (b.collectRules builder) (builderVarOpts b builder) gflat outfile menvs
        = .ok o := by
  revert h
  fun_cases configureSelection ev st b builder app cli r with
  | case1 => intro h; cases h
  | case2 gflat hgflat =>
    fun_cases configureWithEnv ev st b builder app r (globalEnv st b builder app r cli) gflat with
    | case1 | case2 => intro h; cases h
    | case3 outfile hout menvs hmenvs => exact fun h => ⟨gflat, outfile, menvs, hgflat, unwrapX_ok hout, hmenvs, h⟩

/-- the early decisions: a tuple is resolved only if the builder is allowed and the app's context is on its chain -/
theorem configureBuild_ok {cli : Cli} {o : Outcome} (h : configureBuild ev st b builder app cli = .ok o) :
    ((b.tree.isAllowed builder app.blocklist app.allowlist).ok = false ∧ o = .noBuild .blocked) ∨
    ((b.tree.isAllowed builder app.blocklist app.allowlist).ok = true ∧
      (((b.chain builder).contains app.contextName = false ∧ o = .noBuild .notAncestor) ∨
       ((b.chain builder).contains app.contextName = true ∧
         ((∃ e, resolveTop b builder app cli = .error e ∧ o = .noBuild .unresolved) ∨
          ∃ rs, resolveTop b builder app cli = .ok rs ∧
            configureSelection ev st b builder app cli (resolvedOf b builder (appClone app builder cli) rs) = .ok o)))) := by
  unfold configureBuild at h
  cases ha : (b.tree.isAllowed builder app.blocklist app.allowlist).ok with
  | false =>
    rw [ha] at h
    exact .inl ⟨rfl, (Except.ok.inj h).symm⟩
  | true =>
    rw [ha] at h
    refine .inr ⟨rfl, ?_⟩
    cases hc : (b.chain builder).contains app.contextName with
    | false =>
      rw [hc] at h
      exact .inl ⟨rfl, (Except.ok.inj h).symm⟩
    | true =>
      rw [hc] at h
      refine .inr ⟨rfl, ?_⟩
      cases hrs : resolveTop b builder app cli with
      | error e =>
        rw [hrs] at h
        exact .inl ⟨e, rfl, (Except.ok.inj h).symm⟩
      | ok rs =>
        rw [hrs] at h
        exact .inr ⟨rs, rfl, h⟩

/-- the stages a build configured from the selection `r` went through, with their results: the flattened global env, `${outfile}`,
    the module envs, the build order, the loop over the modules, link, post-link and the task table -/
structure Configured (ev : EvalExpr) (st : Settings) (b : Bag) (builder : Name) (app : Module) (cli : Cli) (r : Resolved) where
  gflat : Flat
  outfile : String
  menvs : List ModEnv
  order : List Name
  ls : LoopState
  mflats : List (Name × Flat)
  entries1 : List String
  eo : List String × String
  tasks : List (String × TaskAvail)
  flat : globalFlat (builderVarOpts b builder) (globalEnv st b builder app r cli) = .ok gflat
  out : expandS gflat .empty "${outfile}" = .ok outfile
  envs : moduleEnvs r (globalEnv st b builder app r cli) r.modules = .ok menvs
  ordered : buildOrder (menvs.map ModEnv.deps) = some order
  loop : modulesLoop ev st builder app r (b.collectRules builder) (builderVarOpts b builder) (globalBuildDeps r) menvs order {} []
    = .ok (ls, mflats)
  link : linkStep ev (b.collectRules builder) gflat (globalBuildDeps r) outfile ls = .ok entries1
  postLink : postLinkStep ev (b.collectRules builder) gflat outfile entries1 = .ok eo
  tasksOk : collectTasks ev b builder (gflat.insert "out" eo.2) r = .ok tasks

/-- the `BuildInfo` the stages give: `mkBuildInfo` is the only place where one is made -/
def Configured.info {cli : Cli} (c : Configured ev st b builder app cli r) : BuildInfo :=
  mkBuildInfo builder app r c.eo.2 c.gflat c.mflats c.tasks c.eo.1

theorem configureSelection_build {cli : Cli} {i : BuildInfo}
    (h : configureSelection ev st b builder app cli r = .ok (.build i)) :
    ∃ c : Configured ev st b builder app cli r, i = c.info := by
  obtain ⟨gflat, outfile, menvs, h1, h2, h3, hord⟩ := configureSelection_ok h
  obtain ⟨order, ls, mflats, h4, h5, h6⟩ := configureOrdered_build hord
  obtain ⟨entries1, eo, tasks, h7, h8, h9, e⟩ := finishBuild_ok h6
  exact ⟨⟨gflat, outfile, menvs, order, ls, mflats, entries1, eo, tasks, h1, h2, h3, h4, h5, h7, h8, h9⟩, e⟩

/-- a configured build: the resolution succeeded, and the build was configured from its selection -/
theorem configureBuild_build {cli : Cli} {i : BuildInfo}
    (h : configureBuild ev st b builder app cli = .ok (.build i)) :
    ∃ rs, resolveTop b builder app cli = .ok rs ∧
      ∃ c : Configured ev st b builder app cli (resolvedOf b builder (appClone app builder cli) rs), i = c.info := by
  rcases configureBuild_ok h with ⟨_, h'⟩ | ⟨_, ⟨_, h'⟩ | ⟨_, ⟨_, _, h'⟩ | ⟨rs, hrs, hsel⟩⟩⟩
  · cases h'
  · cases h'
  · cases h'
  · exact ⟨rs, hrs, configureSelection_build hsel⟩

/-- link and post-link only add to what the loop over the modules left -/
theorem Configured.entries_adds {cli : Cli} (c : Configured ev st b builder app cli r) :
    ∃ l, c.info.entries = addEntries c.ls.entries l := by
  obtain ⟨_, _, _, _, e1⟩ := linkStep_ok c.link
  obtain ⟨l, hl⟩ := postLinkStep_adds c.postLink
  exact ⟨_ ++ l, by rw [addEntries_append, ← e1]; exact hl⟩


end Finish

/-! ### module envs; the files of imported build dependencies -/

theorem moduleEnvs_ok {r : Resolved} {genv : Env} {ms : List Module} {menvs : List ModEnv}
    (h : moduleEnvs r genv ms = .ok menvs) :
    menvs.map (·.1) = ms ∧ ∀ me ∈ menvs, buildEnv r me.1 genv = .ok (me.2.1, me.2.2) := by
  revert h menvs
  fun_induction moduleEnvs r genv ms with
  | case1 => intro _ h; cases h; exact ⟨rfl, fun _ h => (List.not_mem_nil h).elim⟩
  | case2 | case3 => intro _ h; cases h
  | case4 m ms p hp rest hrest ih =>
    intro _ h
    cases h
    obtain ⟨h1, h2⟩ := ih hrest
    exact ⟨by rw [List.map_cons, h1], fun me hme => (List.mem_cons.1 hme).elim (fun e => e ▸ hp) (h2 me)⟩

/-- the loop over the build deps cannot fail: a dep without registered files is skipped -/
theorem importedDepFiles_eq (files : FileTable) (deps : List Name) (acc : List String) :
    importedDepFiles files deps acc =
      .ok (deps.foldl (fun acc d => (files.get? d).elim acc fun fs => dedup (acc ++ fs)) acc) := by
  fun_induction importedDepFiles files deps acc with
  | case1 => rfl
  | case2 d ds acc fs hfs ih => rw [List.foldl_cons, hfs]; exact ih
  | case3 d ds acc hfs ih => rw [List.foldl_cons, hfs]; exact ih

end Laze
