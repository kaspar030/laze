import LazeModel.Lemmas.Bag
/-! The resolver (`Model/Resolver.lean`, `Model/Build.lean`): what its tests and `enter` do, the
    world of a build, and the ONE induction over the open recursion: a successful call is made of
    registrations of unselected modules and of parked if-then dependencies, whatever was tried and
    rolled back in between (`StepClosed`). -/
namespace Laze

/-! ### the tests of a state -/

theorem RState.isSel_iff {s : RState} {n : Name} : s.isSel n = true ↔ n ∈ s.sel := by
  simp [RState.isSel]

theorem RState.isSel_eq_false {s : RState} {n : Name} : s.isSel n = false ↔ n ∉ s.sel := by
  simp [RState.isSel]

theorem RState.isSel_nil {s : RState} (h : s.sel = []) (n : Name) : s.isSel n = false := by
  rw [RState.isSel_eq_false, h]; exact List.not_mem_nil

theorem RState.isDisabled_iff {s : RState} {n : Name} :
    s.isDisabled n = true ↔ n ∈ s.disabled.map (·.1) := by
  simp only [RState.isDisabled, List.any_eq_true, beq_iff_eq, List.mem_map]

/-! ### `enter` -/

theorem enter_ok {m : Mod} {s s' : RState} (h : enter m s = .ok s') :
    s.isDisabled m.name = false ∧
    (∀ c ∈ m.conflicts, s.isSel c = false ∧ s.isProvided c = false) ∧
    (∀ p ∈ m.provides, s.isDisabled p = false) ∧
    s' = { s with
      sel := s.sel ++ [m.name]
      disabled := s.disabled ++ m.conflicts.map (fun c => (c, some m.name))
      providedBy := s.providedBy ++ m.provides.map (fun p => (p, m.name)) } := by
  revert h
  fun_cases enter m s with
  | case1 | case2 | case3 => exact fun h => nomatch h
  | case4 h1 h2 h3 =>
    rintro ⟨⟩
    simp only [List.any_eq_true, Bool.or_eq_true, not_exists, not_and, not_or,
      Bool.not_eq_true] at h1 h2 h3
    exact ⟨h1, h2, h3, rfl⟩

theorem enter_sel {m : Mod} {s s' : RState} (h : enter m s = .ok s') : s'.sel = s.sel ++ [m.name] := by
  rw [(enter_ok h).2.2.2]

theorem enter_pending {m : Mod} {s s' : RState} (h : enter m s = .ok s') : s'.pending = s.pending := by
  rw [(enter_ok h).2.2.2]

theorem enter_isSel {m : Mod} {s s' : RState} (h : enter m s = .ok s') (n : Name) :
    s'.isSel n = true ↔ s.isSel n = true ∨ n = m.name := by
  simp [RState.isSel_iff, enter_sel h]

theorem enter_isDisabled {m : Mod} {s s' : RState} (h : enter m s = .ok s') (n : Name) :
    s'.isDisabled n = (s.isDisabled n || m.conflicts.contains n) := by
  rw [(enter_ok h).2.2.2]
  simp only [RState.isDisabled, List.any_append, List.any_map, List.contains_eq_any_beq,
    Function.comp_def, BEq.comm (a := n)]

theorem enter_isProvided {m : Mod} {s s' : RState} (h : enter m s = .ok s') (n : Name) :
    s'.isProvided n = (s.isProvided n || m.provides.contains n) := by
  rw [(enter_ok h).2.2.2]
  simp only [RState.isProvided, List.any_append, List.any_map, List.contains_eq_any_beq,
    Function.comp_def, BEq.comm (a := n)]

theorem mem_lateDeps {s : RState} {c : Name} {d : Dep} : d ∈ lateDeps s c ↔ (c, d) ∈ s.pending := by
  simp only [lateDeps, List.mem_map, List.mem_filter]
  constructor
  · rintro ⟨⟨c', d'⟩, ⟨h, hc⟩, rfl⟩
    rw [← eq_of_beq hc]; exact h
  · exact fun h => ⟨(c, d), ⟨h, by simp⟩, rfl⟩

/-! ### one dependency name -/

theorem resolveOneW_ok {w : World} {rec : RRec} {n : Name} {opt : Bool} {s s' : RState}
    (h : resolveOneW w rec n opt s = .ok s') :
    resolveNameW w rec n (resolveListW w rec (w.providers n) n 0 s).2 = .ok s' ∨
    s' = (resolveListW w rec (w.providers n) n 0 s).2 ∧
      (opt = true ∨ (resolveListW w rec (w.providers n) n 0 s).1 > 0) := by
  revert h
  fun_cases resolveOneW w rec n opt s with
  | case1 cnt s1 hl hc => rw [hl]; rintro ⟨⟩; exact Or.inr ⟨rfl, Or.inr (by simp_all)⟩
  | case2 cnt s1 hl _ s2 hn => rw [hl]; rintro ⟨⟩; exact Or.inl hn
  | case3 cnt s1 hl _ e hn ho => rw [hl]; rintro ⟨⟩; exact Or.inr ⟨rfl, by simp_all⟩
  | case4 => exact fun h => nomatch h

/-! ### the loop, one dependency at a time -/

/-- what the loop `resolveDepsW` does with one dependency: resolve it, or park it in `pending`
    when its condition is not selected -/
def resolveDepW (w : World) (rec : RRec) : Dep → RState → Except RErr RState
  | .hard n, s => resolveOneW w rec n false s
  | .soft n, s => resolveOneW w rec n true s
  | .ifHard c n, s =>
    if s.isSel c then resolveOneW w rec n false s else .ok { s with pending := s.pending ++ [(c, .hard n)] }
  | .ifSoft c n, s =>
    if s.isSel c then resolveOneW w rec n true s else .ok { s with pending := s.pending ++ [(c, .soft n)] }

theorem resolveDepsW_cons (w : World) (rec : RRec) (d : Dep) (ds : List Dep) (s : RState) :
    resolveDepsW w rec (d :: ds) s =
      match resolveDepW w rec d s with
      | .ok s1 => resolveDepsW w rec ds s1
      | .error e => .error e := by
  cases d with
  | hard n | soft n => rfl
  | ifHard c n | ifSoft c n => simp only [resolveDepsW, resolveDepW]; split <;> rfl

theorem resolveDepsW_cons_ok {w : World} {rec : RRec} {d : Dep} {ds : List Dep} {s s' : RState}
    (h : resolveDepsW w rec (d :: ds) s = .ok s') :
    ∃ s1, resolveDepW w rec d s = .ok s1 ∧ resolveDepsW w rec ds s1 = .ok s' := by
  rw [resolveDepsW_cons] at h
  split at h
  · exact ⟨_, ‹_›, h⟩
  · cases h

theorem resolveDepsW_append (w : World) (rec : RRec) (ds : List Dep) : ∀ (pre : List Dep) (s : RState),
    resolveDepsW w rec (pre ++ ds) s =
      match resolveDepsW w rec pre s with
      | .ok s1 => resolveDepsW w rec ds s1
      | .error e => .error e
  | [], _ => rfl
  | d :: pre, s => by
    rw [List.cons_append, resolveDepsW_cons, resolveDepsW_cons]
    cases resolveDepW w rec d s with
    | ok s1 => exact resolveDepsW_append w rec ds pre s1
    | error e => rfl

/-! ### one step of the recursion -/

theorem resolveDeepStep_selected {w : World} {rec : RRec} {m : Mod} {s : RState}
    (hs : s.isSel m.name = true) : resolveDeepStep w rec m s = .ok s := by
  unfold resolveDeepStep; rw [if_pos hs]

theorem resolveDeepStep_ok {w : World} {rec : RRec} {m : Mod} {s s' : RState}
    (hs : s.isSel m.name = false) (h : resolveDeepStep w rec m s = .ok s') :
    ∃ s1, enter m s = .ok s1 ∧ resolveDepsW w rec (m.selects ++ lateDeps s1 m.name) s1 = .ok s' := by
  unfold resolveDeepStep at h
  rw [if_neg (by simp [hs])] at h
  split at h
  · cases h
  · exact ⟨_, ‹_›, h⟩

/-! ### the induction -/

/-- `R s s'` holds from the state before to the state after each of the steps a successful
    resolution is made of; `K` is what is known of every module the resolver is called on.
    `step` is the whole frame of one module; where `enter` alone already gives `R`, use
    `StepClosed.of_enter`. -/
structure StepClosed (w : World) (K : Mod → Prop) (R : RState → RState → Prop) : Prop where
  known : ∀ {n m}, w.lookup n = some m → K m
  refl : ∀ s, R s s
  trans : ∀ {a b c}, R a b → R b c → R a c
  pend : ∀ {s : RState} {c : Name} (d : Dep), s.isSel c = false →
    R s { s with pending := s.pending ++ [(c, d)] }
  step : ∀ {fuel m s s1 s'}, K m → s.isSel m.name = false → enter m s = .ok s1 →
    resolveDepsW w (resolveDeep w fuel) (m.selects ++ lateDeps s1 m.name) s1 = .ok s' →
    R s1 s' → R s s'

namespace StepClosed
variable {w : World} {K : Mod → Prop} {R : RState → RState → Prop}

theorem of_enter (known : ∀ {n m}, w.lookup n = some m → K m) (refl : ∀ s, R s s)
    (trans : ∀ {a b c}, R a b → R b c → R a c)
    (pend : ∀ {s : RState} {c : Name} (d : Dep), s.isSel c = false →
      R s { s with pending := s.pending ++ [(c, d)] })
    (enter : ∀ {m s s1}, K m → s.isSel m.name = false → enter m s = .ok s1 → R s s1) :
    StepClosed w K R :=
  ⟨known, refl, trans, pend, fun k hs he _ r => trans (enter k hs he) r⟩

theorem of_pred {P : RState → Prop} (known : ∀ {n m}, w.lookup n = some m → K m)
    (pend : ∀ {s : RState} (e : Name × Dep), P s → P { s with pending := s.pending ++ [e] })
    (enter : ∀ {m s s1}, K m → s.isSel m.name = false → enter m s = .ok s1 → P s → P s1) :
    StepClosed w K (fun s s' => P s → P s') :=
  of_enter known (fun _ h => h) (fun h1 h2 h => h2 (h1 h)) (fun _ _ => pend _)
    (fun k hs he => enter k hs he)

section
variable {rec : RRec} (h : StepClosed w K R) (hrec : ∀ m s s', K m → rec m s = .ok s' → R s s')
include h hrec

theorem name {n : Name} {s s' : RState} (hn : resolveNameW w rec n s = .ok s') : R s s' := by
  unfold resolveNameW at hn
  split at hn
  · cases hn
  · exact hrec _ _ _ (h.known ‹_›) hn

theorem list (f : Name) (ps : List Name) (cnt : Nat) (s : RState) :
    R s (resolveListW w rec ps f cnt s).2 := by
  fun_induction resolveListW w rec ps f cnt s with
  | case1 => exact h.refl _                      -- no provider left
  | case2 _ _ _ _ _ _ ih => exact ih             -- the provider is selected already
  | case3 => exact h.refl _                      -- the feature is disabled and a provider was counted
  | case4 _ _ _ _ _ _ _ _ ih => exact ih         -- the feature is disabled
  | case5 _ _ _ _ _ _ _ s' hn ih => exact h.trans (h.name hrec hn) ih    -- the provider resolves
  | case6 _ _ _ _ _ _ _ _ _ ih => exact ih       -- it does not: skipped

theorem one {n : Name} {opt : Bool} {s s' : RState} (ho : resolveOneW w rec n opt s = .ok s') :
    R s s' := by
  have r1 := h.list hrec n (w.providers n) 0 s
  rcases resolveOneW_ok ho with hn | ⟨rfl, _⟩
  · exact h.trans r1 (h.name hrec hn)
  · exact r1

theorem dep {d : Dep} {s s' : RState} (hd : resolveDepW w rec d s = .ok s') : R s s' := by
  cases d with
  | hard n => exact h.one hrec hd
  | soft n => exact h.one hrec hd
  | ifHard c n | ifSoft c n =>
    simp only [resolveDepW] at hd
    split at hd
    · exact h.one hrec hd
    · cases hd; exact h.pend _ (Bool.eq_false_iff.2 ‹_›)

theorem deps : ∀ (ds : List Dep) {s s' : RState}, resolveDepsW w rec ds s = .ok s' → R s s'
  | [], s, s', hd => by cases hd; exact h.refl s
  | d :: ds, s, s', hd =>
    let ⟨_, h1, h2⟩ := resolveDepsW_cons_ok hd
    h.trans (h.dep hrec h1) (deps ds h2)

end

theorem deep (h : StepClosed w K R) : ∀ (fuel : Nat) {m : Mod} {s s' : RState}, K m →
    resolveDeep w fuel m s = .ok s' → R s s'
  | 0, _, _, _, _, hd => by cases hd
  | fuel+1, m, s, s', k, hd => by
    cases hs : s.isSel m.name with
    | true => rw [resolveDeep, resolveDeepStep_selected hs] at hd; cases hd; exact h.refl s
    | false =>
      obtain ⟨s1, he, hds⟩ := resolveDeepStep_ok hs hd
      exact h.step k hs he hds (h.deps (fun _ _ _ => h.deep fuel) _ hds)

theorem deepDeps (h : StepClosed w K R) (fuel : Nat) (ds : List Dep) {s s' : RState}
    (hd : resolveDepsW w (resolveDeep w fuel) ds s = .ok s') : R s s' :=
  h.deps (fun _ _ _ => h.deep fuel) ds hd

end StepClosed

/-! ### what is selected stays selected -/

theorem stepClosed_isSel (w : World) (n : Name) :
    StepClosed w (fun _ => True) (fun s s' => s.isSel n = true → s'.isSel n = true) :=
  .of_pred (fun _ => trivial) (fun _ h => h) (fun _ _ he h => (enter_isSel he n).2 (.inl h))

theorem resolveDeep_isSel {w : World} : ∀ {fuel : Nat} {m : Mod} {s s' : RState},
    resolveDeep w fuel m s = .ok s' → s'.isSel m.name = true
  | 0, _, _, _, hd => by cases hd
  | fuel+1, m, s, s', hd => by
    cases hs : s.isSel m.name with
    | true => rw [resolveDeep, resolveDeepStep_selected hs] at hd; cases hd; exact hs
    | false =>
      obtain ⟨s1, he, hds⟩ := resolveDeepStep_ok hs hd
      exact (stepClosed_isSel w m.name).deepDeps fuel _ hds ((enter_isSel he _).2 (.inr rfl))

/-! ### the world of one (builder, app) pair -/

theorem buildWorld_lookup_name {b : Bag} {builder : Name} {app' : Module} {n : Name} {m : Mod}
    (h : (buildWorld b builder app').lookup n = some m) : m.name = n := by
  simp only [buildWorld] at h
  split at h
  · cases h; exact (eq_of_beq ‹_›).symm
  · obtain ⟨M, hM, rfl⟩ := Option.map_eq_some_iff.1 h
    exact Bag.resolveModule_name hM

theorem buildWorld_lookup_app (b : Bag) (builder : Name) (app' : Module) :
    (buildWorld b builder app').lookup app'.name = some app'.toMod := by
  simp [buildWorld]

end Laze
