import LazeModel.Model.Path
import LazeModel.Lemmas.List
/-! Paths as texts. `pathPush`: an absolute argument replaces the path, a relative one is appended after the separator
    `sepOf`; so pushing relative paths keeps the base as a prefix of the text (`StrPrefix`). Replacing the extension of a
    path that has a file name appends to a fixed text (`pathWithExtension_shape`); `pathSort` permutes. -/
namespace Laze

/-! ### first and last character -/

theorem startsWith_slash_iff {s : String} : s.startsWith "/" = true ↔ s.toList.head? = some '/' := by
  rw [String.startsWith_string_iff, show "/".toList = ['/'] from by decide +kernel]
  exact List.singleton_prefix_iff_head?_eq_some

theorem endsWith_slash_iff {s : String} : s.endsWith "/" = true ↔ s.toList.getLast? = some '/' := by
  rw [← String.endsWith_toSlice, String.Slice.endsWith_string_iff, String.copy_toSlice,
    show "/".toList = ['/'] from by decide +kernel]
  exact List.singleton_suffix_iff_getLast?_eq_some

theorem head?_toList_append (s t : String) {c : Char} (h : s.toList.head? = some c) :
    (s ++ t).toList.head? = some c := by
  rw [String.toList_append, List.head?_append, h]
  rfl

/-- texts that begin with different characters differ, whatever follows -/
theorem append_ne_of_head {s s' : String} {c c' : Char} (hs : s.toList.head? = some c)
    (hs' : s'.toList.head? = some c') (hc : c ≠ c') (t t' : String) : s ++ t ≠ s' ++ t' := fun h =>
  hc (Option.some.inj ((head?_toList_append s t hs).symm.trans
    ((congrArg (·.toList.head?) h).trans (head?_toList_append s' t' hs'))))

theorem startsWith_slash_append (P x : String) (hP : P ≠ "") : (P ++ x).startsWith "/" = P.startsWith "/" := by
  rw [Bool.eq_iff_iff, startsWith_slash_iff, startsWith_slash_iff, String.toList_append, List.head?_append]
  cases hl : P.toList with
  | nil => exact absurd (String.toList_inj.1 hl) hP
  | cons c r => rfl

theorem intercalate_append_last (sep : String) (pre : List String) (a x : String) :
    sep.intercalate (pre ++ [a ++ x]) = sep.intercalate (pre ++ [a]) ++ x := by
  induction pre with
  | nil => rw [List.nil_append, List.nil_append, String.intercalate_singleton, String.intercalate_singleton]
  | cons t pre ih =>
    rw [List.cons_append, List.cons_append, String.intercalate_cons_of_ne_nil (by simp),
      String.intercalate_cons_of_ne_nil (by simp), ih, String.append_assoc, String.append_assoc, String.append_assoc]

/-! ### `pathPush` -/

/-- the separator `pathPush` inserts after `a` -/
def sepOf (a : String) : String := if a == "" then "" else if a.endsWith "/" then "" else "/"

theorem pathPush_abs (a b : String) (hb : b.startsWith "/" = true) : pathPush a b = b := by
  unfold pathPush
  rw [if_pos hb]

theorem pathPush_sepOf (a b : String) (hb : b.startsWith "/" = false) : pathPush a b = a ++ sepOf a ++ b := by
  unfold pathPush sepOf
  rw [if_neg (ne_true_of_eq_false hb)]
  by_cases h : (a == "") = true
  · rw [if_pos h, if_pos h, eq_of_beq h, String.append_empty, String.empty_append]
  · rw [if_neg h, if_neg h]
    by_cases h' : a.endsWith "/" = true
    · rw [if_pos h', if_pos h', String.append_empty]
    · rw [if_neg h', if_neg h']

theorem pathPush_rel_sep (a b : String) (hb : b.startsWith "/" = false) (ha : a ≠ "")
    (ha' : a.endsWith "/" = false) : pathPush a b = a ++ "/" ++ b := by
  rw [pathPush_sepOf a b hb, sepOf, if_neg (mt eq_of_beq ha), if_neg (ne_true_of_eq_false ha')]

theorem pathPush_inj (a x y : String) (hxy : x.startsWith "/" = y.startsWith "/")
    (h : pathPush a x = pathPush a y) : x = y := by
  cases hx : x.startsWith "/"
  · rwa [pathPush_sepOf a x hx, pathPush_sepOf a y (hxy ▸ hx), String.append_right_inj] at h
  · rwa [pathPush_abs a x hx, pathPush_abs a y (hxy ▸ hx)] at h

/-- `s` starts with the text `p`: a prefix of characters, not of path components (`a/b` is one of `a/bc`) -/
def StrPrefix (p s : String) : Prop := ∃ rest, s = p ++ rest

theorem StrPrefix.refl (s : String) : StrPrefix s s := ⟨"", (String.append_empty).symm⟩

theorem StrPrefix.trans {a b c : String} : StrPrefix a b → StrPrefix b c → StrPrefix a c
  | ⟨r₁, h₁⟩, ⟨r₂, h₂⟩ => ⟨r₁ ++ r₂, by rw [h₂, h₁, String.append_assoc]⟩

theorem pathPush_rel (a b : String) (hb : b.startsWith "/" = false) : StrPrefix a (pathPush a b) :=
  ⟨sepOf a ++ b, by rw [pathPush_sepOf a b hb, String.append_assoc]⟩

/-! ### the file name and its extension -/

theorem pathExtension_some_file {p e : String} (h : pathExtension p = some e) :
    (fileName p == ".." || fileName p == "") = false := by
  unfold pathExtension at h
  dsimp only at h
  split at h
  · cases h
  · rename_i hc
    simpa using hc

theorem pathWithExtension_shape (p : String) (hf : (fileName p == ".." || fileName p == "") = false) :
    ∃ P, P ≠ "" ∧ ∀ x, x ≠ "" → pathWithExtension p x = P ++ x := by
  refine ⟨"/".intercalate ((p.splitOn "/").dropLast ++ [fileStem (fileName p) ++ "."]), fun h => ?_, fun x hx => ?_⟩
  · rw [← String.empty_append (s := fileStem _ ++ "."), intercalate_append_last, String.append_eq_empty_iff,
      String.append_eq_empty_iff] at h
    exact absurd h.2.2 (by decide)
  · unfold pathWithExtension
    dsimp only
    rw [Bool.or_comm, fileName] at hf
    rw [if_neg (ne_true_of_eq_false hf), if_neg (mt eq_of_beq hx), intercalate_append_last]
    rfl

/-! ### `pathSort` -/

theorem insertSorted_perm (x : String) (l : List String) : (insertSorted x l).Perm (x :: l) :=
  perm_insert (ins := insertSorted) (p := fun x y => pathLe y x = true) (fun _ => rfl) (fun _ _ _ => rfl) x l

theorem pathSort_perm (l : List String) : (pathSort l).Perm l := by
  have := perm_foldl_insert insertSorted_perm l []
  rwa [List.append_nil] at this

theorem mem_pathSort (l : List String) (f : String) : f ∈ pathSort l ↔ f ∈ l := (pathSort_perm l).mem_iff

end Laze
