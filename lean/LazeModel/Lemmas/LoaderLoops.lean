import LazeModel.Model.Loader
import LazeModel.Lemmas.ExceptFold
import LazeModel.Lemmas.Assoc
/-! The loops of `data::load` as `List.foldlM` of their steps, and its functions that run two steps in a row as
    `>>=` (the model spells both out by `match` on the `Except`); when one `contexts:` entry is accepted; that the contexts the
    loader hands to `finalize` have pairwise different names. -/
namespace Laze
open Except (eq_foldlM)

/-! ### one `contexts:` / `builders:` entry -/

theorem convertContext_ok {y : YContext} {isB : Bool} {f : String} {c : Context} {m : Module} :
    convertContext y isB f = .ok (c, m) ↔
      ∃ tasks, convertOptTasks (contextEarlyEnv f) y.tasks = .ok tasks ∧
      ∃ env, expandOptEnv (contextEarlyEnv f) y.env = .ok env ∧
      ∃ selects, (y.selects.getD []).mapM depFromString = .ok selects ∧
      mkContext y isB f env tasks = c ∧ mkContextModule y f selects = m := by
  simp only [convertContext, Except.bind_eq_ok, Except.pure_eq_ok, Prod.mk.injEq]

theorem addContext_eq (f : String) (isB : Bool) (acc : List Context × List Module) (y : YContext) :
    addContext f isB acc y =
      if acc.1.any (·.name == y.name) then .error (.error "context name already defined")
      else (convertContext y (isB || y.isBuilder) f).map fun cm => (acc.1 ++ [cm.1], acc.2 ++ [cm.2]) := by
  unfold addContext
  split
  · rfl
  · cases convertContext y (isB || y.isBuilder) f <;> rfl

theorem addContext_ok {f : String} {isB : Bool} {acc acc' : List Context × List Module} {y : YContext} :
    addContext f isB acc y = .ok acc' ↔
      y.name ∉ acc.1.map (·.name) ∧
      ∃ cm, convertContext y (isB || y.isBuilder) f = .ok cm ∧ (acc.1 ++ [cm.1], acc.2 ++ [cm.2]) = acc' := by
  rw [addContext_eq, ← C09.any_key Context.name]
  split
  · next h => exact ⟨fun e => (by cases e), fun e => absurd h e.1⟩
  · next h => rw [Except.map_eq_ok]; exact (and_iff_right h).symm

theorem addContexts_eq (f : String) (isB : Bool) (ys : List YContext) (acc : List Context × List Module) :
    addContexts f isB ys acc = ys.foldlM (addContext f isB) acc :=
  eq_foldlM (fun _ => rfl) (fun y _ acc => by rw [addContexts]; cases addContext f isB acc y <;> rfl) ys acc

theorem convertContextsOfDoc_eq (d : LDoc) (acc : List Context × List Module) :
    convertContextsOfDoc d acc =
      addContexts d.filename false (d.doc.contexts.getD []) acc >>= addContexts d.filename true (d.doc.builders.getD []) := by
  rw [convertContextsOfDoc]; cases addContexts d.filename false (d.doc.contexts.getD []) acc <;> rfl

theorem convertContextsOfDocs_eq (ds : List LDoc) (acc : List Context × List Module) :
    convertContextsOfDocs ds acc = ds.foldlM (fun acc d => convertContextsOfDoc d acc) acc :=
  eq_foldlM (fun _ => rfl) (fun d _ acc => by rw [convertContextsOfDocs]; cases convertContextsOfDoc d acc <;> rfl) ds acc

theorem addModules_eq (ms : List Module) (cs : List Context) : addModules ms cs = ms.foldlM addModule cs :=
  eq_foldlM (fun _ => rfl) (fun m _ cs => by rw [addModules]; cases addModule cs m <;> rfl) ms cs

theorem addConverted_eq (bd : String) (d : LDoc) (isB : Bool) (defs : Option Module) (y : YModule)
    (c : Option String) (cs : List Context) :
    addConverted bd d isB defs y c cs = convertModule y c isB d.filename defs bd >>= addModule cs := by
  rw [addConverted]; cases convertModule y c isB d.filename defs bd <;> rfl

theorem addModuleContexts_eq (bd : String) (d : LDoc) (isB : Bool) (defs : Option Module) (y : YModule)
    (l : List (Option String)) (cs : List Context) :
    addModuleContexts bd d isB defs y l cs = l.foldlM (fun cs c => addConverted bd d isB defs y c cs) cs :=
  eq_foldlM (fun _ => rfl)
    (fun c _ cs => by rw [addModuleContexts]; cases addConverted bd d isB defs y c cs <;> rfl) l cs

theorem addYModules_eq (bd : String) (d : LDoc) (isB : Bool) (defs : Option Module) (ys : List YModule)
    (cs : List Context) :
    addYModules bd d isB defs ys cs =
      ys.foldlM (fun cs y => addModuleContexts bd d isB defs y y.contexts cs) cs :=
  eq_foldlM (fun _ => rfl)
    (fun y _ cs => by rw [addYModules]; cases addModuleContexts bd d isB defs y y.contexts cs <;> rfl) ys cs

theorem addModulesOfDoc_eq (bd : String) (d : LDoc) (md ad : Option Module) (cs : List Context) :
    addModulesOfDoc bd d md ad cs =
      addModuleSection bd d false md d.doc.modules cs >>= addModuleSection bd d true ad d.doc.apps := by
  rw [addModulesOfDoc]; cases addModuleSection bd d false md d.doc.modules cs <;> rfl

theorem loadModulesLoop_eq (bd : String) (ds : List LDoc) (s : LoadState) :
    loadModulesLoop bd ds s = ds.foldlM (fun s d => loadDocStep bd d s) s :=
  eq_foldlM (fun _ => rfl) (fun d _ s => by rw [loadModulesLoop]; cases loadDocStep bd d s <;> rfl) ds s

/-! ### the loader hands `finalize` unique context names -/

theorem addContext_nodup {filename : String} {isB : Bool} {acc acc' : List Context × List Module}
    {y : YContext} (h : addContext filename isB acc y = .ok acc')
    (hnd : (acc.1.map (·.name)).Nodup) : (acc'.1.map (·.name)).Nodup := by
  obtain ⟨hnew, ⟨c, m⟩, hcm, rfl⟩ := addContext_ok.1 h
  -- the new context is `mkContext y …`, whose name is `y.name`
  obtain ⟨_, _, _, _, _, _, rfl, _⟩ := convertContext_ok.1 hcm
  rw [List.map_append]
  exact List.nodup_snoc.2 ⟨hnd, hnew⟩

theorem convertContextsOfDocs_nodup (ds : List LDoc) {acc acc' : List Context × List Module}
    (h : convertContextsOfDocs ds acc = .ok acc') (hnd : (acc.1.map (·.name)).Nodup) :
    (acc'.1.map (·.name)).Nodup := by
  have hcs : ∀ f isB ys (a a' : List Context × List Module), addContexts f isB ys a = .ok a' →
      (a.1.map (·.name)).Nodup → (a'.1.map (·.name)).Nodup := fun f isB ys a a' h =>
    Except.foldlM_inv (fun a => (a.1.map (·.name)).Nodup) (fun _ _ _ hs h => addContext_nodup h hs)
      (addContexts_eq .. ▸ h)
  refine Except.foldlM_inv (fun a => (a.1.map (·.name)).Nodup) (fun a d a' hs h => ?_)
    (convertContextsOfDocs_eq .. ▸ h) hnd
  rw [convertContextsOfDoc_eq] at h
  obtain ⟨a₁, h1, h2⟩ := Except.bind_eq_ok.1 h
  exact hcs _ _ _ _ _ h2 (hcs _ _ _ _ _ h1 hs)

end Laze
