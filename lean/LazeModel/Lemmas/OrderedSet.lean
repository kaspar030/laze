import LazeModel.Model.Types
import LazeModel.Lemmas.List
/-! Insertion-ordered sets (`IndexSet`) as the model writes them: `if l.contains x then l else l ++ [x]`.
    `addEntry`, `bdepInsert`, `setInsert`, `addInclude`, the step of `dedup` and the inner step of `DepGraph.add` /
    `PTable.add` all unfold to `setAdd`, so each fact is stated once, here, and holds of them by definition
    (of `addInclude` only the facts that need no `LawfulBEq`: a `FileInclude` is compared by its file name alone). -/
namespace Laze

variable {α : Type _} [BEq α]

/-- `IndexSet::insert` -/
def setAdd (l : List α) (x : α) : List α := if l.contains x then l else l ++ [x]

theorem prefix_setAdd (l : List α) (x : α) : l <+: setAdd l x := by
  unfold setAdd
  split
  · exact List.prefix_refl _
  · exact List.prefix_append _ _

theorem prefix_foldl_setAdd (xs l : List α) : l <+: xs.foldl setAdd l := by
  induction xs generalizing l with
  | nil => exact List.prefix_refl _
  | cons a xs ih => exact (prefix_setAdd l a).trans (ih _)

theorem dedup_eq_foldl (l : List α) : dedup l = l.foldl setAdd [] := rfl

theorem dedup_append (a b : List α) : dedup (a ++ b) = b.foldl setAdd (dedup a) := by
  rw [dedup_eq_foldl, List.foldl_append, ← dedup_eq_foldl]

variable [LawfulBEq α]

theorem mem_setAdd {l : List α} {x y : α} : y ∈ setAdd l x ↔ y ∈ l ∨ y = x := by
  unfold setAdd
  split
  · exact ⟨Or.inl, fun h' => h'.elim id (fun e => e ▸ List.contains_iff_mem.1 ‹_›)⟩
  · rw [List.mem_append, List.mem_singleton]

theorem nodup_setAdd {l : List α} (h : l.Nodup) (x : α) : (setAdd l x).Nodup := by
  unfold setAdd
  split
  · exact h
  · next hc => exact List.nodup_snoc.2 ⟨h, fun hm => hc (List.contains_iff_mem.2 hm)⟩

theorem mem_foldl_setAdd {xs l : List α} {y : α} : y ∈ xs.foldl setAdd l ↔ y ∈ l ∨ y ∈ xs := by
  rw [foldl_or_iff (g := setAdd) (P := (y ∈ ·)) (Q := (y = ·)) (fun _ _ => mem_setAdd)]
  simp

theorem nodup_foldl_setAdd {xs l : List α} (h : l.Nodup) : (xs.foldl setAdd l).Nodup := by
  induction xs generalizing l with
  | nil => exact h
  | cons a xs ih => exact ih (nodup_setAdd h a)

theorem foldl_setAdd_of_nodup (xs : List α) : ∀ l : List α, (l ++ xs).Nodup → xs.foldl setAdd l = l ++ xs := by
  induction xs with
  | nil => simp
  | cons x xs ih =>
    intro l h
    have hx : ¬ l.contains x = true := fun hc =>
      (List.nodup_append.1 h).2.2 x (List.contains_iff_mem.1 hc) x List.mem_cons_self rfl
    rw [List.foldl_cons, setAdd, if_neg hx, ih _ (by simpa using h), List.append_assoc]
    rfl

theorem mem_dedup {l : List α} {x : α} : x ∈ dedup l ↔ x ∈ l := by
  rw [dedup_eq_foldl, mem_foldl_setAdd]; simp

theorem nodup_dedup (l : List α) : (dedup l).Nodup := nodup_foldl_setAdd List.nodup_nil

theorem dedup_idem (l : List α) : dedup (dedup l) = dedup l := by
  have := foldl_setAdd_of_nodup (dedup l) [] (by simpa using nodup_dedup l)
  simpa [dedup_eq_foldl] using this

theorem dedup_dedup_append (l m : List α) : dedup (dedup l ++ m) = dedup (l ++ m) := by
  rw [dedup_append, dedup_append, dedup_idem]

end Laze
