import LazeModel.Model.Env
import LazeModel.Model.Resolver
/-! Loaded project data (`src/model/*.rs`): rules, tasks, modules, contexts, the context bag. -/
namespace Laze

structure VarExport where
  var : String
  content : Option String
  deriving Repr, BEq, DecidableEq

structure Rule where
  name : String
  cmd : String
  in_ : Option String := none
  out : Option String := none
  gccDeps : Option String := none
  rspfile : Option String := none
  rspfileContent : Option String := none
  pool : Option String := none
  description : Option String := none
  «export» : Option (List VarExport) := none
  always : Bool := false
  shareable : Bool := true
  deriving Repr, BEq, DecidableEq

structure Task where
  cmd : List String
  requiredVars : Option (List String) := none
  requiredModules : Option (List String) := none
  «export» : Option (List VarExport) := none
  build : Bool := true
  workdir : Option String := none
  deriving Repr, BEq, DecidableEq

structure CustomBuild where
  gccDeps : Option String := none
  cmd : List String
  out : Option (List String) := none
  deriving Repr, BEq, DecidableEq

/-- `download:` — only the git/commit form produces statements; everything else is an error -/
structure Download where
  url : String
  commit : Option String       -- `none`: branch/tag/default/laze form ("unsupported download type")
  patches : Option (List String) := none
  dldir : Option String := none
  deriving Repr, BEq, DecidableEq

structure Module where
  name : Name
  contextName : Name
  selects : List Dep := []
  imports : List Dep := []
  provides : Option (List Name) := none
  conflicts : Option (List Name) := none
  notifyAll : Bool := false
  blocklist : Option (List Name) := none
  allowlist : Option (List Name) := none
  sources : List String := []
  sourcesOptional : Option (List (Name × List String)) := none
  tasks : List (String × Task) := []
  build : Option CustomBuild := none
  envLocal : Env := []
  envExport : Env := []
  envGlobal : Env := []
  envEarly : Env := []
  download : Option Download := none
  definedIn : String := ""
  relpath : String := "."
  srcdir : Option String := none
  buildDepFiles : Option (List String) := none
  isBuildDep : Bool := false
  isGlobalBuildDep : Bool := false
  isBinary : Bool := false
  deriving Repr

def Module.toMod (m : Module) : Mod :=
  { name := m.name, selects := m.selects, conflicts := m.conflicts.getD [], provides := m.provides.getD [] }

def Module.isContextModule (m : Module) : Bool := m.name.startsWith "context::"

structure Context where
  name : Name
  parent : Option Name            -- parent_name (`none` only for "default")
  modules : List Module := []     -- insertion order (IndexMap)
  rules : Option (List Rule) := none
  env : Option Env := none
  disable : Option (List Name) := none
  provided : Option (List (Name × List Name)) := none
  varOptions : Option VarOpts := none
  tasks : Option (List (String × Task)) := none
  envEarly : Env := []
  isBuilder : Bool := false
  definedIn : String := ""
  deriving Repr

structure Bag where
  contexts : List Context
  deriving Repr

def Bag.ctx? (b : Bag) (n : Name) : Option Context := b.contexts.find? (·.name == n)
def Bag.tree (b : Bag) : Tree := b.contexts.map (fun c => ⟨c.name, c.parent⟩)
/-- `[c, parent c, …, root]` -/
def Bag.chain (b : Bag) (n : Name) : List Name := b.tree.chain n
def Bag.chainCtx (b : Bag) (n : Name) : List Context := (b.chain n).filterMap b.ctx?

def Context.module? (c : Context) (n : Name) : Option Module := c.modules.find? (·.name == n)

/-- `Context::resolve_module`: the nearest definition on the chain -/
def Bag.resolveModule (b : Bag) (c : Name) (n : Name) : Option Module :=
  (b.chainCtx c).findSome? (·.module? n)

def dedup [BEq α] (l : List α) : List α := l.foldl (fun acc x => if acc.contains x then acc else acc ++ [x]) []

/-- `collect_disabled_modules`: root → builder, insertion-ordered set -/
def Bag.collectDisabled (b : Bag) (c : Name) : List Name :=
  dedup ((b.chainCtx c).reverse.flatMap (fun x => x.disable.getD []))

/-- `collect_rules`: root → builder; keyed by `in` (else by name); `IndexMap::insert` semantics:
    a later value replaces, the position of the first insertion is kept -/
def insertKeyed (acc : List (String × α)) (k : String) (v : α) : List (String × α) :=
  if acc.any (·.1 == k) then acc.map (fun q => if q.1 == k then (k, v) else q) else acc ++ [(k, v)]

def Bag.collectRules (b : Bag) (c : Name) : List (String × Rule) :=
  (b.chainCtx c).reverse.foldl (fun acc x =>
    (x.rules.getD []).foldl (fun acc r => insertKeyed acc (r.in_.getD r.name) r) acc) []

def rulesGet (rules : List (String × Rule)) (k : String) : Option Rule := (rules.find? (·.1 == k)).map (·.2)
/-- `get_rule(name)`: first rule (in map order) with that name -/
def rulesByName (rules : List (String × Rule)) (n : String) : Option Rule := (rules.find? (·.2.name == n)).map (·.2)

end Laze
