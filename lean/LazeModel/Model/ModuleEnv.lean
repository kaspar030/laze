import LazeModel.Model.Types
/-! `src/model/module.rs`: import closure (`get_imports_recursive`) and `build_env`. -/
namespace Laze

/-- result of the resolver as the generator sees it -/
structure Resolved where
  modules : List Module                  -- selection order; the app clone first
  providers : List (Name × List Name)    -- `provided_by`: feature ↦ selected providers (selection order)

def Resolved.module? (r : Resolved) (n : Name) : Option Module := r.modules.find? (·.name == n)
def Resolved.has (r : Resolved) (n : Name) : Bool := r.modules.any (·.name == n)
def Resolved.providersOf (r : Resolved) (n : Name) : List Name :=
  ((r.providers.find? (·.1 == n)).map (·.2)).getD []

/-- the name an import refers to, if its condition holds -/
def importName (r : Resolved) : Dep → Option Name
  | .hard n | .soft n => some n
  | .ifHard c n | .ifSoft c n => if r.has c then some n else none

abbrev IRec := Name → List Name → (List Name × List Name)   -- name, seen ↦ (post-order result, seen')

/-- one level of `get_imports_recursive` (post-order, self last) -/
def importsStep (r : Resolved) (rec : IRec) (n : Name) (seen : List Name) : (List Name × List Name) :=
  if seen.contains n then ([], seen) else
  let seen := seen ++ [n]
  match r.module? n with
  | none => ([n], seen)
  | some m =>
    let (res, seen) := m.imports.foldl (fun (acc : List Name × List Name) d =>
      match importName r d with
      | none => acc
      | some x =>
        let acc := if r.has x then
            let (res, s) := rec x acc.2
            (acc.1 ++ res, s) else acc
        (r.providersOf x).foldl (fun acc q => let (res, s) := rec q acc.2; (acc.1 ++ res, s)) acc) ([], seen)
    (res ++ [n], seen)

def importsRec (r : Resolved) : Nat → IRec
  | 0 => fun _ s => ([], s)
  | f+1 => importsStep r (importsRec r f)

/-- the import closure of a selected module: dependencies first, the module itself last -/
def importsOf (r : Resolved) (n : Name) : List Name := (importsRec r (r.modules.length + 2) n []).1

/-- `create_module_define` -/
def defineName (n : String) : String :=
  n.map (fun c => if 'a' ≤ c && c ≤ 'z' then c.toUpper else if c == '/' || c == '.' || c == '-' || c == ':' then '_' else c)

inductive GErr where
  | error (kind : String)     -- laze reports an error (exit status 1)
  | panic (site : String)     -- the implementation would panic at this site
  deriving Repr, DecidableEq

/-- append the dependency's define to `notify`; the variable must be a list (or absent) -/
def notifyAppend (env : Env) (dep : Module) : Except GErr Env :=
  match env.get "notify" with
  | some (.single _) => .error (.error "module.rs:build_env notify must be a list")
  | some (.list l) => .ok (env.insert "notify" (.list (l ++ [defineName dep.name])))
  | none => .ok (env.insert "notify" (.list [defineName dep.name]))

/-- the env part of one iteration: merge the dependency's exports, then (unless `notify_all`)
    append it to `notify` -/
def depEnvStep (m dep : Module) (env : Env) : Except GErr Env :=
  if m.notifyAll then .ok (env.merge dep.envExport) else notifyAppend (env.merge dep.envExport) dep

/-- is `dep` a build dependency of `m` (a module is not its own build dependency) -/
def isBuildDepOf (m dep : Module) : Bool :=
  !(dep.name == m.name && dep.contextName == m.contextName) && dep.isBuildDep

/-- `IndexSet::insert` into the (lazily created) build-dep set -/
def bdepInsert (bdeps : Option (List Name)) (n : Name) : Option (List Name) :=
  some (if (bdeps.getD []).contains n then bdeps.getD [] else bdeps.getD [] ++ [n])

/-- the build-dep part of one iteration -/
def addBuildDep (m dep : Module) (bdeps : Option (List Name)) : Option (List Name) :=
  if isBuildDepOf m dep then bdepInsert bdeps dep.name else bdeps

/-- the `for dep in deps` loop of `build_env` over the import closure (as modules) -/
def buildEnvLoop : List Module → Module → Env → Option (List Name) → Except GErr (Env × Option (List Name))
  | [], _, env, bdeps => .ok (env, bdeps)
  | dep :: deps, m, env, bdeps =>
    match depEnvStep m dep env with
    | .error e => .error e
    | .ok env' => buildEnvLoop deps m env' (addBuildDep m dep bdeps)

/-- `notify` for a `notify_all` module: every selected non-context module -/
def notifyAllEnv (r : Resolved) (m : Module) (env : Env) : Env :=
  if m.notifyAll then
    env.insert "notify" (.list ((r.modules.filter (!·.isContextModule)).map (defineName ·.name)))
  else env

/-- what happens after the loop: `notify_all`, then the module's local env on top -/
def finishEnv (r : Resolved) (m : Module) (env : Env) : Env := (notifyAllEnv r m env).merge m.envLocal

/-- the import closure of `m` as modules (names without a selected module are skipped) -/
def importedModules (r : Resolved) (m : Module) : List Module := (importsOf r m.name).filterMap r.module?

/-- `Module::build_env`: (module env, build-dep modules) -/
def buildEnv (r : Resolved) (m : Module) (globalEnv : Env) : Except GErr (Env × Option (List Name)) :=
  match buildEnvLoop (importedModules r m) m globalEnv none with
  | .error e => .error e
  | .ok p => .ok (finishEnv r m p.1, p.2)

end Laze
