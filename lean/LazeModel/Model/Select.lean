import LazeModel.Model.Gen
/-! `Generator::execute` (generate.rs 176-300): which (builder, app) pairs are configured, and the
    ninja file assembled from their statements. -/
namespace Laze

inductive Selector where
  | all
  | some (l : List String)
  deriving Repr, DecidableEq

def Selector.selects (s : Selector) (v : String) : Bool :=
  match s with | .all => true | .some l => l.contains v

def Selector.isSuperset : Selector → Selector → Bool
  | .all, _ => true
  | .some _, .all => false
  | .some a, .some b => b.all a.contains

inductive Mode where
  | global
  | «local» (dir : String)
  deriving Repr, DecidableEq

inductive Partition where
  | count (shard total : Nat)
  | hash (shard total : Nat)
  deriving Repr, DecidableEq

structure Args where
  builders : Selector := .all
  apps : Selector := .all
  mode : Mode := .global
  cli : Cli := {}
  partition : Option Partition := none
  deriving Repr

def Bag.builders (b : Bag) : List Context := b.contexts.filter (·.isBuilder)
def Bag.bins (b : Bag) : List Module := b.contexts.flatMap (fun c => c.modules.filter (·.isBinary))

/-- `builders_by_name` -/
def selectedBuilders (b : Bag) : Selector → Except GErr (List Context)
  | .all => .ok b.builders
  | .some names => (dedup names).mapM (fun n => match b.ctx? n with
      | some c => if c.isBuilder then .ok c else .error (.error "context is not a build context")
      | none => .error (.error "unknown builder"))

def selectedBins (b : Bag) (apps : Selector) (mode : Mode) : Except GErr (List Module) := do
  let bins := b.bins
  match apps with
  | .some l => if l.any (fun a => !(bins.any (·.name == a))) then throw (.error "unknown binaries specified")
  | .all => pure ()
  let bins := bins.filter (fun m => apps.selects m.name)
  match mode with
  | .global => return bins
  | .local dir =>
    -- a name that is (also) defined in the start directory is not missing there
    let outside := bins.filter (fun m => m.relpath != dir && !(bins.any (fun m' => m'.relpath == dir && m'.name == m.name)))
    match apps with
    | .some _ => if !outside.isEmpty then throw (.error "binaries not defined in the current directory")
    | .all => pure ()
    return bins.filter (fun m => m.relpath == dir)

/-- `CountPartitioner::task_matches` over the tuple list, with its running counter -/
def countPartition (shard total : Nat) : List α → Nat → List α
  | [], _ => []
  | x :: xs, curr =>
    let rest := countPartition shard total xs ((curr + 1) % total)
    if curr == shard - 1 then x :: rest else rest

def applyPartition (h : String → Nat) (p : Option Partition) (tuples : List (Context × Module)) : List (Context × Module) :=
  match p with
  | none => tuples
  | some (.count s t) => countPartition s t tuples 0
  | some (.hash s t) => tuples.filter (fun (b, m) => h (b.name ++ m.name) % t == s - 1)

def buildTuples (h : String → Nat) (b : Bag) (a : Args) : Except GErr (List (Context × Module)) := do
  let bs ← selectedBuilders b a.builders
  let bins ← selectedBins b a.apps a.mode
  return applyPartition h a.partition (bs.flatMap (fun c => bins.map (fun m => (c, m))))

structure GenResult where
  outcomes : List (Name × Name × Outcome)      -- every tuple, in order
  builds : List BuildInfo                      -- the configured ones, in order
  entries : List String                        -- combined, insertion-ordered set
  deriving Repr

def ninjaHeader (st : Settings) : String := "builddir = " ++ st.buildDir ++ "\nbuild ALWAYS: phony\n"

def GenResult.ninja (st : Settings) (r : GenResult) : String := ninjaHeader st ++ String.join r.entries

/-- every tuple is configured (the implementation does this on a thread pool); the run fails if any
    of them fails. Which failure is reported when several tuples fail is not determined by the
    implementation (parallel short-circuit), so the model returns all of them. -/
def configureAll (ev : EvalExpr) (st : Settings) (b : Bag) (cli : Cli) (tuples : List (Context × Module)) :
    List (Name × Name × Except GErr Outcome) :=
  tuples.map (fun (c, m) => (c.name, m.name, configureBuild ev st b c.name m cli))

def failuresOf (l : List (Name × Name × Except GErr Outcome)) : List GErr :=
  l.filterMap (fun (_, _, r) => match r with | .error e => some e | .ok _ => none)

inductive GenOutcome where
  | failed (errs : List GErr)       -- non-empty: the run fails with one of these
  | done (r : GenResult)

def generate (ev : EvalExpr) (h : String → Nat) (st : Settings) (b : Bag) (a : Args) : Except GErr GenOutcome := do
  let tuples ← buildTuples h b a
  let all := configureAll ev st b a.cli tuples
  match failuresOf all with
  | [] =>
    let outcomes := all.filterMap (fun (bn, an, r) => match r with | .ok o => some (bn, an, o) | .error _ => none)
    let builds := outcomes.filterMap (fun (_, _, o) => match o with | .build i => some i | _ => none)
    return .done { outcomes := outcomes, builds := builds,
                   entries := builds.foldl (fun es i => addEntries es i.entries) [] }
  | errs => return .failed errs

/-! ### the duplicate-output check (`check_duplicate_outputs`)

Identical statements were merged by the entry set. Two different statements naming one output (an `outfile` or custom-build `out`
that does not depend on builder/app, clashing download directories, one source listed by two modules under a non-shareable rule)
would make ninja refuse the file: laze reports them instead of writing it. The check reads the statement *text*, as the code does:
the words between `build ` and the first `:`. -/

/-- a symbolic hash token `\x01 … \x02` (Model/Ninja.lean) stands for a decimal number: the characters inside it are not
    text of the statement. `d` is the nesting depth of tokens. -/
def tokDepth (d : Nat) (c : Char) : Nat := if c == '\x01' then d + 1 else if c == '\x02' then d - 1 else d

def takeUntilColon : Nat → List Char → Option (List Char)
  | _, [] => none
  | d, c :: cs =>
    if d == 0 && c == ':' then some []
    else (takeUntilColon (tokDepth d c) cs).map (c :: ·)

/-- `str::split(' ')` with the empty pieces filtered out -/
def splitSpaces : Nat → List Char → List Char → List (List Char)
  | _, cur, [] => if cur.isEmpty then [] else [cur.reverse]
  | d, cur, c :: cs =>
    if d == 0 && c == ' ' then (if cur.isEmpty then splitSpaces 0 [] cs else cur.reverse :: splitSpaces 0 [] cs)
    else splitSpaces (tokDepth d c) (c :: cur) cs

/-- the outputs a statement text names (`strip_prefix("build ")`, `split_once(':')`, `split(' ')`); rule blocks name none -/
def entryOuts (e : String) : List String :=
  match e.toList with
  | 'b' :: 'u' :: 'i' :: 'l' :: 'd' :: ' ' :: rest =>
    match takeUntilColon 0 rest with
    | some outs => (splitSpaces 0 [] outs).map String.ofList
    | none => []
  | _ => []

/-- the first output that was already named by an earlier statement (or earlier in the same one) -/
def firstDup : List String → List String → Option String
  | _, [] => none
  | seen, x :: xs => if seen.contains x then some x else firstDup (x :: seen) xs

/-- the outputs a statement names, as ninja compares them: canonical paths (`objects/./x.o` and `objects/x.o` are one output; the code
    before the repair compared the texts, found by looking at `srcdir: .`) -/
def entryCanonOuts (e : String) : List String := (entryOuts e).map canonPath

def dupOutput (entries : List String) : Option String := firstDup [] (entries.flatMap entryCanonOuts)

/-- `Generator::execute` after configuring: the run fails when two statements name one output -/
def generateChecked (ev : EvalExpr) (h : String → Nat) (st : Settings) (b : Bag) (a : Args) : Except GErr GenOutcome :=
  match generate ev h st b a with
  | .error e => .error e
  | .ok (.failed errs) => .ok (.failed errs)
  | .ok (.done r) =>
    match dupOutput r.entries with
    | some _ => .error (.error "generate.rs:output produced by more than one build statement")
    | none => .ok (.done r)

end Laze
