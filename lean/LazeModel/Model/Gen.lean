import LazeModel.Model.Ninja
import LazeModel.Model.Build
/-! `src/generate.rs` `configure_build`, `src/build.rs` `Build::new`, `src/download.rs`,
    `Context::collect_tasks`: everything that turns (bag, builder, app, CLI) into ninja statements. -/
namespace Laze

/-! ### environment assembly -/

structure Settings where
  buildDir : String := "build"
  projectRoot : String := ""
  lazeBin : String := ""
  deriving Repr

def lazeEnv (st : Settings) : Env :=
  [("in", .single "\\${in}"), ("out", .single "\\${out}"), ("build-dir", .single st.buildDir),
   ("outfile", .single "${bindir}/${app}.elf"), ("project-root", .single st.projectRoot),
   ("root", .single "."), ("LAZE_BIN", .single st.lazeBin)]

/-- `relroot(relpath)` -/
def relroot (relpath : String) : String :=
  let comps := (pathComponents relpath).filter (fun c => c ≠ "." && c ≠ "")
  if comps.length == 0 then "${root}" else "/".intercalate (comps.map (fun _ => ".."))

def globalEnv (st : Settings) (b : Bag) (builder : Name) (app : Module) (r : Resolved) (cli : Cli) : Env :=
  let benv := ((((b.ctx? builder).bind (·.env)).getD []).insert "builder" (.single builder)).insert "app" (.single app.name)
  let g := (lazeEnv st).merge benv
  let g := r.modules.reverse.foldl (fun g m => g.merge m.envGlobal) g
  let g := g.insert "relpath" (.single app.relpath)
  let g := g.insert "relroot" (.single (relroot app.relpath))
  let g := g.insert "modules" (.list ((r.modules.filter (!·.isContextModule)).map (·.name)))
  let g := g.insert "contexts" (.list (b.chain builder))
  match cli.env with
  | some e => g.merge e
  | none => g

/-! ### `Rule::to_ninja` -/

def xerrKind : XErr → String
  | .missing _ => "missing" | .unclosed _ => "unclosed" | .cycle _ => "cycle" | .expr => "expr"
  | .panic => "panic" | .fuel => "fuel" | .need _ => "need"

def liftX {α} (site : String) (x : Except XErr α) : Except GErr α :=
  match x with
  | .ok v => .ok v
  | .error (.need e) => .error (.error ("need:" ++ ofB e))
  | .error e => .error (.error (site ++ ":" ++ xerrKind e))

/-- an `.unwrap()` on an expansion result: an error there is a panic -/
def unwrapX {α} (site : String) (x : Except XErr α) : Except GErr α :=
  match x with
  | .ok v => .ok v
  | .error (.need e) => .error (.error ("need:" ++ ofB e))
  | .error e => .error (.error (site ++ ":" ++ xerrKind e))   -- reported with `?` (these sites used to `.unwrap()`)

/-- `VarExportSpec::apply_env` -/
def applyExport (ev : EvalExpr) (flat : Flat) (e : VarExport) : Except GErr VarExport := do
  let content := match e.content with | some c => c | none => "${" ++ e.var ++ "}"
  let c ← unwrapX "shared.rs:apply_env" (expandEvalS ev flat .empty content)
  return { var := e.var, content := some c }

/-- `apply_env` on an optional export list -/
def applyExports (ev : EvalExpr) (flat : Flat) : Option (List VarExport) → Except GErr (Option (List VarExport))
  | some l => (l.mapM (applyExport ev flat)).map some
  | none => .ok none

/-- the `VAR="value" && ` prefix one export contributes to a rule's command -/
def exportPrefix (e : VarExport) : String :=
  match e.content with
  | some v => e.var ++ "=\"" ++ v ++ "\" && "
  | none => ""

def exportsPrefix (exports : Option (List VarExport)) : String := String.join ((exports.getD []).map exportPrefix)

/-- the optional gcc depfile of a rule, expanded -/
def ruleDeps (ev : EvalExpr) (flat : Flat) : Option String → Except GErr (Option String)
  | some d => (liftX "rule-deps" (expandEvalS ev flat .ignore d)).map some
  | none => .ok none

/-- the rule as `NinjaRuleBuilder` + `expand` leave it, before `single_line` and `named` -/
def rawNinjaRule (rule : Rule) (pre cmd : String) (deps : Option String) : NinjaRule :=
  { name := rule.name, command := pre ++ cmd, description := some (rule.description.getD rule.name),
    deps := deps, rspfile := rule.rspfile, rspfileContent := rule.rspfileContent,
    pool := rule.pool, always := rule.always }

def mkNinjaRule (rule : Rule) (pre cmd : String) (deps : Option String) : NinjaRule :=
  (rawNinjaRule rule pre cmd deps).named

/-- `single_line()` then `named()`; a line break inside a printed value is an error -/
def finishRule (r : NinjaRule) : Except GErr NinjaRule :=
  match r.singleLine with
  | some r' => .ok r'.named
  | none => .error (.error "ninja/mod.rs:rule value contains a line break")

def ruleToNinja (ev : EvalExpr) (rule : Rule) (flat : Flat) : Except GErr NinjaRule := do
  let exports ← applyExports ev flat rule.export
  let cmd ← liftX "rule-cmd" (expandEvalS ev flat .ignore rule.cmd)
  let deps ← ruleDeps ev flat rule.gccDeps
  finishRule (rawNinjaRule rule (exportsPrefix exports) cmd deps)

/-! ### build-order graph (`solvent::DepGraph`, deterministic feature) -/

structure DepGraph where
  edges : List (Name × List Name) := []   -- node ↦ dependencies, both in insertion order

def DepGraph.add (g : DepGraph) (n d : Name) : DepGraph :=
  { edges := if g.edges.any (·.1 == n) then g.edges.map (fun e => if e.1 == n then (n, if e.2.contains d then e.2 else e.2 ++ [d]) else e)
             else g.edges ++ [(n, [d])] }

def DepGraph.deps (g : DepGraph) (n : Name) : Option (List Name) := (g.edges.find? (·.1 == n)).map (·.2)

/-- `get_next_dependency`: descend to the first unsatisfied dependency; `none` = cycle -/
def nextDependency (g : DepGraph) (satisfied : List Name) : Nat → List Name → Name → Option Name
  | 0, _, _ => none
  | fuel+1, curpath, pos =>
    if curpath.contains pos then none else
    match g.deps pos with
    | none => some pos
    | some deplist =>
      match deplist.find? (fun n => !satisfied.contains n) with
      | some n => nextDependency g satisfied fuel (curpath ++ [pos]) n
      | none => some pos

/-- the iterator of `dependencies_of(target)`: nodes in emission order, `none` on a cycle -/
def dependenciesOf (g : DepGraph) (target : Name) (size : Nat) : Nat → List Name → Option (List Name)
  | 0, _ => none
  | fuel+1, satisfied =>
    if satisfied.contains target then some satisfied else
    match nextDependency g satisfied (size + 2) [] target with
    | none => none
    | some n => dependenciesOf g target size fuel (satisfied ++ [n])

def rootNode : Name := ""
def globalNode : Name := "_global_build_deps"

/-- `_global_build_deps → d` for every global build dep -/
def graphAddGlobal (g : DepGraph) (d : Name) : DepGraph := g.add globalNode d

/-- `module → d` for every build dep of the module, then `root → module` -/
def graphAddModuleEdges (g : DepGraph) (mb : Module × Option (List Name)) : DepGraph :=
  ((mb.2.getD []).foldl (fun g d => g.add mb.1.name d) g).add rootNode mb.1.name

/-- the edges of one module; every non-global module depends on `_global_build_deps` -/
def graphAddModule (g : DepGraph) (mb : Module × Option (List Name)) : DepGraph :=
  if !mb.1.isGlobalBuildDep then (graphAddModuleEdges g mb).add mb.1.name globalNode else graphAddModuleEdges g mb

def buildGraph (mods : List (Module × Option (List Name))) : DepGraph :=
  mods.foldl graphAddModule (((mods.filter (·.1.isGlobalBuildDep)).map (·.1.name)).foldl graphAddGlobal {})

def isRealNode (n : Name) : Bool := n != rootNode && n != globalNode

/-- modules in build order, or `none` when there is a build-dependency cycle -/
def buildOrder (mods : List (Module × Option (List Name))) : Option (List Name) :=
  (dependenciesOf (buildGraph mods) rootNode (mods.length + 3) (mods.length + 3 + 1) []).map
    (fun order => order.filter isRealNode)

/-! ### download statements (`download.rs`) -/

def Download.tagfileDownload (srcdir : String) : String := pathPush srcdir ".laze-downloaded"
def Download.tagfilePatched (srcdir : String) : String := pathPush srcdir ".laze-patched"
def Download.tagfile (d : Download) (srcdir : String) : String :=
  if d.patches.isSome then Download.tagfilePatched srcdir else Download.tagfileDownload srcdir

/-- `Download::srcdir` -/
def Download.srcdir (d : Download) (buildDir : String) (relpath name : String) : String :=
  let s := pathPush buildDir "dl"
  match d.dldir with
  | some dl => pathPush s dl
  | none => pathPush (pathPush s relpath) name

/-- the ninja variables of a git download -/
def downloadVars (d : Download) (commit : String) : List (String × String) := [("commit", commit), ("url", d.url)]

def downloadBuild (nr : NinjaRule) (srcdir : String) (vars : List (String × String)) : NinjaBuild :=
  { rule := nr.name, outs := [Download.tagfileDownload srcdir], env := some vars }

def patchBuild (npr : NinjaRule) (m : Module) (srcdir : String) (patches : List String)
    (vars : List (String × String)) : NinjaBuild :=
  { rule := npr.name, inputs := some (patches.map (pathPush m.relpath ·)),
    outs := [Download.tagfilePatched srcdir],
    deps := some (pathSort [Download.tagfileDownload srcdir]), env := some vars }

/-- `.unwrap()` on the patch rule's `to_ninja`: a reported error becomes a panic -/
def remapPatchErr : GErr → GErr
  | .error k => if k.startsWith "need:" then .error k else .error ("download.rs:patch to_ninja:" ++ k)
  | e => e

def patchRuleToNinja (ev : EvalExpr) (pr : Rule) (flat : Flat) : Except GErr NinjaRule :=
  match ruleToNinja ev pr flat with
  | .ok r => .ok r
  | .error e => .error (remapPatchErr e)

/-- the GIT_PATCH rule and the patch build statement -/
def patchEntries (ev : EvalExpr) (m : Module) (rules : List (String × Rule)) (flat : Flat)
    (srcdir : String) (vars : List (String × String)) (patches : List String) : Except GErr (List String) :=
  match rulesByName rules "GIT_PATCH" with
  | none => .error (.error "download.rs:missing GIT_PATCH rule")
  | some pr =>
    match patchRuleToNinja ev pr flat with
    | .error e => .error e
    | .ok npr => .ok [npr.render, (patchBuild npr m srcdir patches vars).render]

/-- the optional patch statements after the download statements -/
def withPatchEntries (ev : EvalExpr) (m : Module) (rules : List (String × Rule)) (flat : Flat)
    (srcdir : String) (vars : List (String × String)) (base : List String) :
    Option (List String) → Except GErr (List String)
  | none => .ok base
  | some patches =>
    match patchEntries ev m rules flat srcdir vars patches with
    | .error e => .error e
    | .ok pe => .ok (base ++ pe)

/-- statements of a git download with a commit -/
def gitDownloadEntries (ev : EvalExpr) (m : Module) (d : Download) (rules : List (String × Rule)) (flat : Flat)
    (commit : String) : Except GErr (List String) :=
  match rulesByName rules "GIT_DOWNLOAD" with
  | none => .error (.error "download.rs:missing GIT_DOWNLOAD rule")
  | some dr =>
    match ruleToNinja ev dr flat with
    | .error e => .error e
    | .ok nr =>
      withPatchEntries ev m rules flat (m.srcdir.getD "") (downloadVars d commit)
        [nr.render, (downloadBuild nr (m.srcdir.getD "") (downloadVars d commit)).render] d.patches

def downloadEntries (ev : EvalExpr) (m : Module) (d : Download) (rules : List (String × Rule)) (flat : Flat) :
    Except GErr (List String) :=
  match d.commit with
  | none => .error (.error "unsupported download type")
  | some commit => gitDownloadEntries ev m d rules flat commit

/-! ### tasks (`Context::collect_tasks`, `Task::with_env_eval`) -/

inductive TaskAvail where
  | ok (t : Task)
  | missingVar (v : String)
  | missingModule (m : String)
  deriving Repr

def taskCmd (ev : EvalExpr) (flat : Flat) (c : String) : Except GErr String :=
  liftX "task-cmd" (expandEvalS ev flat .empty c)

def taskWorkdir (ev : EvalExpr) (flat : Flat) : Option String → Except GErr (Option String)
  | some w => (liftX "task-workdir" (expandEvalS ev flat .empty w)).map some
  | none => .ok none

def taskWithEnvEval (ev : EvalExpr) (flat : Flat) (t : Task) : Except GErr Task := do
  let cmd ← t.cmd.mapM (taskCmd ev flat)
  let exp ← applyExports ev flat t.export
  let wd ← taskWorkdir ev flat t.workdir
  return { t with cmd := cmd, «export» := exp, workdir := wd }

def taskAvail (ev : EvalExpr) (flat : Flat) (r : Resolved) (t : Task) : Except GErr TaskAvail :=
  match (t.requiredVars.getD []).find? (fun v => !(flat.any (·.1 == v))) with
  | some v => .ok (.missingVar v)
  | none =>
    match (t.requiredModules.getD []).find? (fun m => !r.has m) with
    | some m => .ok (.missingModule m)
    | none => (taskWithEnvEval ev flat t).map TaskAvail.ok

/-- `IndexMap::insert` of every task of a list, evaluated in order (a later definition replaces,
    position kept) -/
def insertTasks (ev : EvalExpr) (flat : Flat) (r : Resolved) :
    List (String × Task) → List (String × TaskAvail) → Except GErr (List (String × TaskAvail))
  | [], res => .ok res
  | (name, t) :: ts, res =>
    match taskAvail ev flat r t with
    | .error e => .error e
    | .ok a => insertTasks ev flat r ts (insertKeyed res name a)

/-- the tasks of every selected module, in selection order -/
def moduleTasks (r : Resolved) : List (String × Task) := r.modules.flatMap (·.tasks)

/-- what one context contributes: its own tasks, then every selected module's tasks -/
def contextTaskList (r : Resolved) (c : Context) : List (String × Task) := c.tasks.getD [] ++ moduleTasks r

def contextTasksStep (ev : EvalExpr) (flat : Flat) (r : Resolved) (c : Context)
    (res : List (String × TaskAvail)) : Except GErr (List (String × TaskAvail)) :=
  insertTasks ev flat r (contextTaskList r c) res

def contextsTasksLoop (ev : EvalExpr) (flat : Flat) (r : Resolved) :
    List Context → List (String × TaskAvail) → Except GErr (List (String × TaskAvail))
  | [], res => .ok res
  | c :: cs, res =>
    match contextTasksStep ev flat r c res with
    | .error e => .error e
    | .ok res' => contextsTasksLoop ev flat r cs res'

/-- the final task table: contexts root → builder, then (after each context) every selected
    module's tasks; `IndexMap::insert` semantics (a later definition replaces, position kept) -/
def collectTasks (ev : EvalExpr) (b : Bag) (builder : Name) (flat : Flat) (r : Resolved) :
    Except GErr (List (String × TaskAvail)) :=
  contextsTasksLoop ev flat r (b.chainCtx builder).reverse []

/-! ### `configure_build` -/

inductive NoBuild where
  | blocked | notAncestor | unresolved | depCycle
  deriving Repr, DecidableEq

structure BuildInfo where
  builder : Name
  app : Name
  out : String
  modules : List Name                       -- selection order (incl. context modules)
  globalFlat : Flat
  moduleFlat : List (Name × Flat)
  tasks : List (String × TaskAvail)
  entries : List String                     -- ninja rule/build blocks, insertion-ordered set
  deriving Repr

inductive Outcome where
  | noBuild (r : NoBuild)
  | build (i : BuildInfo)
  deriving Repr

def addEntry (es : List String) (e : String) : List String := if es.contains e then es else es ++ [e]
def addEntries (es : List String) (l : List String) : List String := l.foldl addEntry es

abbrev FileTable := List (Name × List String)   -- `module_build_dep_files`: IndexMap name ↦ IndexSet path
def FileTable.get? (t : FileTable) (n : Name) : Option (List String) := (t.find? (·.1 == n)).map (·.2)
def FileTable.extend (t : FileTable) (n : Name) (l : List String) : FileTable :=
  if t.any (·.1 == n) then t.map (fun e => if e.1 == n then (n, dedup (e.2 ++ l)) else e) else t ++ [(n, dedup l)]

/-- `IndexMap<&Utf8PathBuf, Utf8PathBuf>::get_containing_path` -/
def containingPath (dirs : List (String × String)) (p : String) : Option String :=
  match dirs.find? (·.1 == p) with
  | some e => some e.2
  | none => (dirs.find? (fun e => pathStartsWith p e.1)).map (·.2)

structure LoopState where
  entries : List String := []
  objects : List String := []
  files : FileTable := []
  downloadDirs : List (String × String) := []

/-! #### per-module inputs -/

/-- the sources an optional-sources entry contributes: all of them when its guard is selected -/
def optionalSourcesOf (r : Resolved) (kv : Name × List String) : List String := if r.has kv.1 then kv.2 else []

/-- the module's sources followed by the optional sources whose guard is selected (map order) -/
def effSources (r : Resolved) (m : Module) : List String :=
  m.sources ++ (m.sourcesOptional.getD []).flatMap (optionalSourcesOf r)

/-- build deps: global ones first (for non-global modules), then the imported ones -/
def effBuildDeps (globals : List Name) (m : Module) (bdeps : Option (List Name)) : Option (List Name) :=
  if !globals.isEmpty && !m.isGlobalBuildDep then some (dedup (globals ++ bdeps.getD [])) else bdeps

/-- the files exported by the given build deps (insertion-ordered set); a dep without an entry in
    the table is a panic -/
def importedDepFiles (files : FileTable) : List Name → List String → Except GErr (List String)
  | [], acc => .ok acc
  | d :: ds, acc =>
    match files.get? d with
    | some fs => importedDepFiles files ds (dedup (acc ++ fs))
    | none => importedDepFiles files ds acc      -- a build dep that exports no files: nothing to wait for

def importedOf (files : FileTable) : Option (List Name) → Except GErr (Option (List String))
  | none => .ok none
  | some l => (importedDepFiles files l []).map some

/-- imported build-dep files followed by the module's own; `none` when there are none (an empty list is no list) -/
def combinedDeps (imported localDeps : Option (List String)) : Option (List String) :=
  if (imported.getD [] ++ localDeps.getD []).isEmpty then none else some (imported.getD [] ++ localDeps.getD [])

/-- the hash of the build-dep files, taken over the list in the order the build statements print it (sorted):
    the same order-only dependencies give the same hash whatever order the exporting modules were resolved in -/
def depsHashOf (combined : Option (List String)) : Option String := combined.map (fun l => hashPaths "deps" (pathSort l))

/-- a module's own build-dep files are registered under its name -/
def registerLocalDeps (m : Module) (ls : LoopState) : LoopState :=
  match m.buildDepFiles with
  | some l => { ls with files := ls.files.extend m.name l }
  | none => ls

def moduleFlat (opts : Option VarOpts) (menv : Env) : Except GErr Flat :=
  match menv.flattenWithOptsOption opts with
  | .ok f => .ok f
  | .error _ => .error (.error "module env: var_options")

/-! #### downloads -/

/-- a downloading module emits its download statements and registers its source directory; any other
    module finds out whether its (expanded) source directory lies inside a downloaded one.
    Result: the new state and the tag file the module's sources depend on -/
def downloadStep (ev : EvalExpr) (m : Module) (srcdir : String) (rules : List (String × Rule)) (flat : Flat)
    (ls : LoopState) : Except GErr (LoopState × Option String) :=
  match m.download with
  | some d =>
    match downloadEntries ev m d rules flat with
    | .error e => .error e
    | .ok es =>
      .ok ({ ls with entries := addEntries ls.entries es,
                     downloadDirs := insertKeyed ls.downloadDirs srcdir (d.tagfile srcdir) }, none)
  | none =>
    match unwrapX "generate.rs:srcdir" (expandEvalS ev flat .ignore srcdir) with
    | .error e => .error e
    | .ok sd => .ok (ls, containingPath ls.downloadDirs sd)

/-! #### custom build -/

def customSource (ev : EvalExpr) (flat : Flat) (srcdir : String) (s : String) : Except GErr String :=
  unwrapX "generate.rs:custom build source" (expandEvalS ev flat .empty (pathPush srcdir s))

def customOut (ev : EvalExpr) (flat : Flat) (o : String) : Except GErr String :=
  unwrapX "generate.rs:custom build out" (expandEvalS ev flat .empty o)

def customRule (cb : CustomBuild) (cmd : String) : NinjaRule :=
  ({ name := "BUILD", command := cmd, description := some "BUILD ${out}", deps := cb.gccDeps } : NinjaRule).named

/-- `single_line()` on the rule of a custom build: its description is fixed, so the command (a line break at its end is dropped) and
    the depfile decide -/
def customCmd (cb : CustomBuild) (cmd0 : String) : Except GErr String :=
  if hasLineBreak (trimLineEnd cmd0) || optHasLineBreak cb.gccDeps then .error (.error "ninja/mod.rs:rule value contains a line break")
  else .ok (trimLineEnd cmd0)

def outsAlias (outs : List String) : String := "outs_" ++ hashPaths "outs" outs

/-- the statements of a custom build: rule, build, alias for the outputs -/
def customStmts (cb : CustomBuild) (cmd : String) (srcs outs : List String) (combined : Option (List String)) :
    List String :=
  [(customRule cb cmd).render,
   (buildFromRule (customRule cb cmd) (some srcs) (pathSort outs) combined).render,
   ninjaAliasMultiple outs (outsAlias outs)]

/-- a module with a `build:` section (after the "has an output" test) -/
def customBuildStepCore (ev : EvalExpr) (flat : Flat) (m : Module) (srcdir : String) (sources : List String)
    (combined : Option (List String)) (cb : CustomBuild) (ls : LoopState) : Except GErr LoopState := do
  let cmd0 ← unwrapX "generate.rs:custom build cmd" (expandEvalS ev flat .empty (" && ".intercalate (cb.cmd.map trimLineEnd)))
  let cmd ← customCmd cb cmd0
  let srcs ← sources.mapM (customSource ev flat srcdir)
  let outs ← (cb.out.getD []).mapM (customOut ev flat)
  return { ls with files := ls.files.extend m.name [outsAlias outs],
                   entries := addEntries ls.entries (customStmts cb cmd srcs outs combined) }

/-- a module with a `build:` section: a custom build without `out` (absent or empty) is rejected before anything is expanded — a build
    statement must name an output (the pre-fix code wrote `build: BUILD_<h>`, which ninja refuses; found by C06's oracle) -/
def customBuildStep (ev : EvalExpr) (flat : Flat) (m : Module) (srcdir : String) (sources : List String)
    (combined : Option (List String)) (cb : CustomBuild) (ls : LoopState) : Except GErr LoopState :=
  if (cb.out.getD []).isEmpty then .error (.error "generate.rs:custom build has no out")
  else customBuildStepCore ev flat m srcdir sources combined cb ls

/-! #### default build: per-extension rules, then one compile statement per source -/

/-- the rule for a source, by its extension (taken *before* substitution), converted for this module -/
def ruleForSource (ev : EvalExpr) (rules : List (String × Rule)) (flat : Flat) (s : String) :
    Except GErr (String × NinjaRule) :=
  match pathExtension s with
  | none => .error (.error "source file missing extension")
  | some ext =>
    match rulesGet rules ext with
    | none => .error (.error "no rule found")
    | some rule =>
      match ruleToNinja ev rule flat with
      | .error e => .error e
      | .ok nr => .ok (ext, nr)

/-- `entry(ext).or_insert(nr)` -/
def addModuleRule (mrules : List (String × NinjaRule)) (ext : String) (nr : NinjaRule) : List (String × NinjaRule) :=
  if mrules.any (·.1 == ext) then mrules else mrules ++ [(ext, nr)]

/-- first loop over the sources: `to_ninja` is evaluated and the rule rendered for EVERY source
    (`entry(ext).or_insert({...})` evaluates its argument), the table keeps the first per extension -/
def moduleRulesLoop (ev : EvalExpr) (rules : List (String × Rule)) (flat : Flat) :
    List String → List String → List (String × NinjaRule) → Except GErr (List String × List (String × NinjaRule))
  | [], entries, mrules => .ok (entries, mrules)
  | s :: ss, entries, mrules =>
    match ruleForSource ev rules flat s with
    | .error e => .error e
    | .ok en => moduleRulesLoop ev rules flat ss (addEntry entries en.2.render) (addModuleRule mrules en.1 en.2)

def objectExt (rule : Rule) (nr : NinjaRule) (depsHash : Option String) (out : String) : String :=
  if rule.shareable then hashXor nr.hash depsHash ++ "." ++ out else out

def objectDir (st : Settings) (builder appName : Name) (rule : Rule) : String :=
  if rule.shareable then pathPush st.buildDir "objects"
  else pathPush (pathPush (pathPush st.buildDir "objects") builder) appName

/-- where the object of `srcpath` goes: shareable rules share objects between apps and builders (the
    name then carries the rule and build-deps hash) -/
def objectPath (st : Settings) (builder : Name) (appName : Name) (rule : Rule) (nr : NinjaRule)
    (depsHash : Option String) (out : String) (srcpath : String) : String :=
  pathPush (objectDir st builder appName rule) (pathWithExtension srcpath (objectExt rule nr depsHash out))

/-- the extra statement of a source: a phony statement making it depend on the module's own build-dep
    files, or else an alias to the tag file of the download it lives in -/
def sourceDepStmts (localDeps : Option (List String)) (srcTagfile : Option String) (srcpath : String) : List String :=
  match localDeps with
  | some l => [({ rule := "phony", outs := [srcpath], deps := some (pathSort l) } : NinjaBuild).render]
  | none =>
    match srcTagfile with
    | some tag => [ninjaAlias tag srcpath]
    | none => []

/-- the rule of an (expanded) source path: the global rule table and the module's converted rules -/
def lookupCompileRule (rules : List (String × Rule)) (mrules : List (String × NinjaRule)) (ext : String) :
    Option (Rule × NinjaRule) :=
  match rulesGet rules ext with
  | none => none
  | some rule =>
    match (mrules.find? (·.1 == ext)).map (·.2) with
    | none => none
    | some nr => some (rule, nr)

def expandSrcPath (ev : EvalExpr) (flat : Flat) (srcdir : String) (s : String) : Except GErr String :=
  unwrapX "generate.rs:srcpath" (expandEvalS ev flat .empty (pathPush srcdir s))

/-- the result for one source, its object path known: the compile statement, then the extra statement -/
def compileOut (nr : NinjaRule) (combined : Option (List String)) (localDeps : Option (List String))
    (srcTagfile : Option String) (srcpath object : String) : String × List String :=
  (object, (buildFromRule nr (some [srcpath]) [object] combined).render :: sourceDepStmts localDeps srcTagfile srcpath)

/-- (object, statements) of an expanded source path -/
def compileStmts (st : Settings) (builder appName : Name) (rules : List (String × Rule))
    (mrules : List (String × NinjaRule)) (combined : Option (List String)) (localDeps : Option (List String))
    (srcTagfile : Option String) (srcpath : String) : Except GErr (String × List String) :=
  match pathExtension srcpath with
  | none => .error (.error "generate.rs:no rule for expanded source")
  | some ext =>
    match lookupCompileRule rules mrules ext with
    | none => .error (.error "generate.rs:no rule for expanded source")
    | some rn =>
      match rn.1.out with
      | none => .error (.error "generate.rs:rule has no out")
      | some out =>
        .ok (compileOut rn.2 combined localDeps srcTagfile srcpath
              (objectPath st builder appName rn.1 rn.2 (depsHashOf combined) out srcpath))

/-- one source: its object and the statements it contributes (the compile statement, then the phony
    statement for local build deps or the tag-file alias) -/
def compileSource (ev : EvalExpr) (st : Settings) (builder appName : Name) (rules : List (String × Rule))
    (mrules : List (String × NinjaRule)) (flat : Flat) (srcdir : String) (combined : Option (List String))
    (localDeps : Option (List String)) (srcTagfile : Option String) (s : String) :
    Except GErr (String × List String) :=
  match expandSrcPath ev flat srcdir s with
  | .error e => .error e
  | .ok srcpath => compileStmts st builder appName rules mrules combined localDeps srcTagfile srcpath

/-- second loop over the sources: (entries, objects) -/
def compileSourcesLoop (ev : EvalExpr) (st : Settings) (builder appName : Name) (rules : List (String × Rule))
    (mrules : List (String × NinjaRule)) (flat : Flat) (srcdir : String) (combined : Option (List String))
    (localDeps : Option (List String)) (srcTagfile : Option String) :
    List String → List String → List String → Except GErr (List String × List String)
  | [], entries, objects => .ok (entries, objects)
  | s :: ss, entries, objects =>
    match compileSource ev st builder appName rules mrules flat srcdir combined localDeps srcTagfile s with
    | .error e => .error e
    | .ok os =>
      compileSourcesLoop ev st builder appName rules mrules flat srcdir combined localDeps srcTagfile ss
        (addEntries entries os.2) (objects ++ [os.1])

/-- a module without a `build:` section -/
def defaultBuildStep (ev : EvalExpr) (st : Settings) (builder appName : Name) (rules : List (String × Rule))
    (flat : Flat) (srcdir : String) (sources : List String) (combined : Option (List String))
    (localDeps : Option (List String)) (srcTagfile : Option String) (ls : LoopState) : Except GErr LoopState :=
  match moduleRulesLoop ev rules flat sources ls.entries [] with
  | .error e => .error e
  | .ok em =>
    match compileSourcesLoop ev st builder appName rules em.2 flat srcdir combined localDeps srcTagfile
            sources em.1 ls.objects with
    | .error e => .error e
    | .ok eo => .ok { ls with entries := eo.1, objects := eo.2 }

def buildStep (ev : EvalExpr) (st : Settings) (builder appName : Name) (rules : List (String × Rule))
    (flat : Flat) (m : Module) (srcdir : String) (sources : List String) (combined : Option (List String))
    (srcTagfile : Option String) (ls : LoopState) : Except GErr LoopState :=
  match m.build with
  | some cb => customBuildStep ev flat m srcdir sources combined cb ls
  | none => defaultBuildStep ev st builder appName rules flat srcdir sources combined m.buildDepFiles srcTagfile ls

/-! #### the module loop -/

/-- a module with a source directory, its flattened env known: downloads, build deps, statements -/
def moduleStmts (ev : EvalExpr) (st : Settings) (builder : Name) (app : Module) (r : Resolved)
    (rules : List (String × Rule)) (globals : List Name) (m : Module) (bdeps : Option (List Name))
    (srcdir : String) (flat : Flat) (ls : LoopState) : Except GErr LoopState :=
  match downloadStep ev m srcdir rules flat ls with
  | .error e => .error e
  | .ok lt =>
    -- the imported files are looked up BEFORE the module's own files are registered
    match importedOf lt.1.files (effBuildDeps globals m bdeps) with
    | .error e => .error e
    | .ok imported =>
      buildStep ev st builder app.name rules flat m srcdir (effSources r m)
        (combinedDeps imported m.buildDepFiles) lt.2 (registerLocalDeps m lt.1)

/-- the body of `for (module, module_env, module_build_deps) in modules_in_build_order` -/
def moduleStep (ev : EvalExpr) (st : Settings) (builder : Name) (app : Module) (r : Resolved)
    (rules : List (String × Rule)) (opts : Option VarOpts) (globals : List Name)
    (m : Module) (menv : Env) (bdeps : Option (List Name)) (ls : LoopState) :
    Except GErr (LoopState × Option (Name × Flat)) :=
  match m.srcdir with
  | none => .ok (ls, none)                          -- a context module
  | some srcdir =>
    match moduleFlat opts menv with
    | .error e => .error e
    | .ok flat =>
      match moduleStmts ev st builder app r rules globals m bdeps srcdir flat ls with
      | .error e => .error e
      | .ok ls' => .ok (ls', some (m.name, flat))

abbrev ModEnv := Module × Env × Option (List Name)   -- module, its env, its build-dep modules

def ModEnv.deps (me : ModEnv) : Module × Option (List Name) := (me.1, me.2.2)

/-- `build_env` of every selected module, in selection order -/
def moduleEnvs (r : Resolved) (genv : Env) : List Module → Except GErr (List ModEnv)
  | [] => .ok []
  | m :: ms =>
    match buildEnv r m genv with
    | .error e => .error e
    | .ok p =>
      match moduleEnvs r genv ms with
      | .error e => .error e
      | .ok rest => .ok ((m, p.1, p.2) :: rest)

def appendFlat (mflats : List (Name × Flat)) : Option (Name × Flat) → List (Name × Flat)
  | some x => mflats ++ [x]
  | none => mflats

/-- the loop over the build order -/
def modulesLoop (ev : EvalExpr) (st : Settings) (builder : Name) (app : Module) (r : Resolved)
    (rules : List (String × Rule)) (opts : Option VarOpts) (globals : List Name) (menvs : List ModEnv) :
    List Name → LoopState → List (Name × Flat) → Except GErr (LoopState × List (Name × Flat))
  | [], ls, mflats => .ok (ls, mflats)
  | n :: ns, ls, mflats =>
    match menvs.find? (·.1.name == n) with
    | none => .error (.panic "generate.rs:modules.get(dep_name)")
    | some me =>
      match moduleStep ev st builder app r rules opts globals me.1 me.2.1 me.2.2 ls with
      | .error e => .error e
      | .ok lf => modulesLoop ev st builder app r rules opts globals menvs ns lf.1 (appendFlat mflats lf.2)

/-! #### link, post-link, result -/

def FileTable.getD (t : FileTable) (n : Name) : List String := (t.get? n).getD []

def nonEmpty? (l : List String) : Option (List String) := if l.isEmpty then none else some l

/-- the files of the global build deps, for the link step -/
def globalDepFiles (globals : List Name) (files : FileTable) : Option (List String) :=
  nonEmpty? (dedup (globals.flatMap files.getD))

/-- the LINK rule and the link statement; result: the entries -/
def linkStep (ev : EvalExpr) (rules : List (String × Rule)) (gflat : Flat) (globals : List Name)
    (outfile : String) (ls : LoopState) : Except GErr (List String) :=
  match rulesByName rules "LINK" with
  | none => .error (.error "missing LINK rule")
  | some lr =>
    match ruleToNinja ev lr gflat with
    | .error e => .error e
    | .ok linkRule =>
      .ok (addEntries ls.entries
        [linkRule.render,
         (buildFromRule linkRule (some ls.objects) [outfile] (globalDepFiles globals ls.files)).render])

/-- the optional POST_LINK rule; result: (entries, final output file) -/
def postLinkStep (ev : EvalExpr) (rules : List (String × Rule)) (gflat : Flat) (outfile : String)
    (entries : List String) : Except GErr (List String × String) :=
  match rulesByName rules "POST_LINK" with
  | none => .ok (entries, outfile)
  | some pr =>
    match pr.out with
    | none => .error (.error "POST_LINK rule has no out")
    | some ext =>
      match ruleToNinja ev pr gflat with
      | .error e => .error e
      | .ok pl =>
        .ok (addEntries entries
              [pl.render, (buildFromRule pl (some [outfile]) [pathWithExtension outfile ext] none).render],
             pathWithExtension outfile ext)

def mkBuildInfo (builder : Name) (app : Module) (r : Resolved) (out : String) (gflat : Flat)
    (mflats : List (Name × Flat)) (tasks : List (String × TaskAvail)) (entries : List String) : BuildInfo :=
  { builder := builder, app := app.name, out := out, modules := r.modules.map (·.name),
    globalFlat := gflat, moduleFlat := mflats, tasks := tasks, entries := entries }

def builderVarOpts (b : Bag) (builder : Name) : Option VarOpts := (b.ctx? builder).bind (·.varOptions)

def globalFlat (opts : Option VarOpts) (genv : Env) : Except GErr Flat :=
  match genv.flattenWithOptsOption opts with
  | .ok f => .ok f
  | .error _ => .error (.error "global env: var_options")

def globalBuildDeps (r : Resolved) : List Name := (r.modules.filter (·.isGlobalBuildDep)).map (·.name)

/-- link, post-link and tasks, then the result -/
def finishBuild (ev : EvalExpr) (b : Bag) (builder : Name) (app : Module) (r : Resolved)
    (rules : List (String × Rule)) (gflat : Flat) (outfile : String) (globals : List Name)
    (ls : LoopState) (mflats : List (Name × Flat)) : Except GErr BuildInfo :=
  match linkStep ev rules gflat globals outfile ls with
  | .error e => .error e
  | .ok entries1 =>
    match postLinkStep ev rules gflat outfile entries1 with
    | .error e => .error e
    | .ok eo =>
      match collectTasks ev b builder (gflat.insert "out" eo.2) r with
      | .error e => .error e
      | .ok tasks => .ok (mkBuildInfo builder app r eo.2 gflat mflats tasks eo.1)

/-- everything after the module envs are known: build order, module loop, link -/
def configureOrdered (ev : EvalExpr) (st : Settings) (b : Bag) (builder : Name) (app : Module) (r : Resolved)
    (rules : List (String × Rule)) (opts : Option VarOpts) (gflat : Flat) (outfile : String)
    (menvs : List ModEnv) : Except GErr Outcome :=
  match buildOrder (menvs.map ModEnv.deps) with
  | none => .ok (.noBuild .depCycle)
  | some order =>
    match modulesLoop ev st builder app r rules opts (globalBuildDeps r) menvs order {} [] with
    | .error e => .error e
    | .ok lm =>
      match finishBuild ev b builder app r rules gflat outfile (globalBuildDeps r) lm.1 lm.2 with
      | .error e => .error e
      | .ok i => .ok (.build i)

/-- everything after the global env is flattened -/
def configureWithEnv (ev : EvalExpr) (st : Settings) (b : Bag) (builder : Name) (app : Module) (r : Resolved)
    (genv : Env) (gflat : Flat) : Except GErr Outcome :=
  match unwrapX "generate.rs:outfile" (expandS gflat .empty "${outfile}") with
  | .error e => .error e
  | .ok outfile =>
    match moduleEnvs r genv r.modules with
    | .error e => .error e
    | .ok menvs =>
      configureOrdered ev st b builder app r (b.collectRules builder) (builderVarOpts b builder) gflat outfile menvs

/-- for a given selection -/
def configureSelection (ev : EvalExpr) (st : Settings) (b : Bag) (builder : Name) (app : Module) (cli : Cli)
    (r : Resolved) : Except GErr Outcome :=
  match globalFlat (builderVarOpts b builder) (globalEnv st b builder app r cli) with
  | .error e => .error e
  | .ok gflat => configureWithEnv ev st b builder app r (globalEnv st b builder app r cli) gflat

/-- everything after successful resolution -/
def configureResolved (ev : EvalExpr) (st : Settings) (b : Bag) (builder : Name) (app : Module) (cli : Cli)
    (rs : RState) : Except GErr Outcome :=
  configureSelection ev st b builder app cli (resolvedOf b builder (appClone app builder cli) rs)

def configureBuild (ev : EvalExpr) (st : Settings) (b : Bag) (builder : Name) (app : Module) (cli : Cli) :
    Except GErr Outcome :=
  if !(b.tree.isAllowed builder app.blocklist app.allowlist).ok then .ok (.noBuild .blocked)
  else if !(b.chain builder).contains app.contextName then .ok (.noBuild .notAncestor)
  else
    match resolveTop b builder app cli with
    | .error _ => .ok (.noBuild .unresolved)
    | .ok rs => configureResolved ev st b builder app cli rs

end Laze
