/-! `Utf8Path` operations as far as laze uses them, on `String`s. Faithful for *simple relative
    paths* (segments without empty/`.`/`..` parts, no leading `/`); see DESIGN §3.6. -/
namespace Laze

/-- `Path::components()`: empty and `.` segments are normalised away, except a leading `.`
    (`CurDir`, which sorts before every normal component: represented by the empty string) -/
def pathComponents (p : String) : List String :=
  match (p.splitOn "/").filter (· ≠ "") with
  | [] => []
  | c :: rest => (if c == "." then "" else c) :: rest.filter (· ≠ ".")

/-- `Utf8PathBuf::push` / `join`: an absolute argument replaces the path -/
def pathPush (a b : String) : String :=
  if b.startsWith "/" then b
  else if a == "" then b
  else if a.endsWith "/" then a ++ b
  else a ++ "/" ++ b

def fileName (p : String) : String := ((p.splitOn "/").getLast?).getD ""

/-- `Path::extension`: the part of the file name after the last `.`, unless the name has no `.`,
    or only a leading one, or is `..` -/
def pathExtension (p : String) : Option String :=
  let file := fileName p
  if file == ".." || file == "" then none else
  match (file.splitOn ".").reverse with
  | [] | [_] => none
  | ext :: before => if before.all (· == "") && before.length == 1 then none else some ext

/-- file name without its extension -/
def fileStem (file : String) : String :=
  match pathExtension file with
  | some ext => (file.dropEnd (ext.length + 1)).toString
  | none => file

/-- `Path::with_extension` / `set_extension` -/
def pathWithExtension (p ext : String) : String :=
  let segs := p.splitOn "/"
  let file := segs.getLast?.getD ""
  if file == "" || file == ".." then p else
  let stem := fileStem file
  let newFile := if ext == "" then stem else stem ++ "." ++ ext
  "/".intercalate (segs.dropLast ++ [newFile])

/-- `Path::parent` as used on file names of lazefiles (`a/b/laze.yml` ↦ `a/b`, `laze.yml` ↦ ``) -/
def pathParent (p : String) : String := "/".intercalate (p.splitOn "/").dropLast

/-- `Path::starts_with` (component-wise prefix) -/
def pathStartsWith (p base : String) : Bool := (pathComponents base).isPrefixOf (pathComponents p)

/-- lexicographic order on component lists (`Path`'s `Ord`) -/
def compsLt : List String → List String → Bool
  | [], [] => false
  | [], _ :: _ => true
  | _ :: _, [] => false
  | a :: as, b :: bs => if a < b then true else if b < a then false else compsLt as bs

def pathLe (a b : String) : Bool := !(compsLt (pathComponents b) (pathComponents a))

def insertSorted (x : String) : List String → List String
  | [] => [x]
  | y :: ys => if pathLe y x then y :: insertSorted x ys else x :: y :: ys

/-- stable sort of paths (`Vec::sort` on `Cow<Utf8Path>`) -/
def pathSort (l : List String) : List String := l.foldl (fun acc x => insertSorted x acc) []

/-- the components of a path (split at every `/`) -/
def splitSlash : List Char → List Char → List (List Char)
  | cur, [] => [cur.reverse]
  | cur, c :: cs => if c == '/' then cur.reverse :: splitSlash [] cs else splitSlash (c :: cur) cs

/-- a path as ninja canonicalizes it: `.` components, repeated `/` and `dir/..` pairs are dropped (`check_duplicate_outputs::canonical`) -/
def canonParts : List (List Char) → List (List Char) → List (List Char)
  | acc, [] => acc.reverse
  | acc, p :: ps =>
    if p == [] || p == ['.'] then canonParts acc ps
    else if p == ['.', '.'] then
      match acc with
      | last :: rest => if last != ['.', '.'] then canonParts rest ps else canonParts (p :: acc) ps
      | [] => canonParts (p :: acc) ps
    else canonParts (p :: acc) ps

def joinSlash : List (List Char) → List Char
  | [] => []
  | [p] => p
  | p :: ps => p ++ '/' :: joinSlash ps

def canonPath (p : String) : String :=
  String.ofList ((if p.toList.head? == some '/' then ['/'] else []) ++ joinSlash (canonParts [] (splitSlash [] p.toList)))

end Laze
