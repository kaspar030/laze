import LazeModel.Model.Types
import LazeModel.Model.Path
/-! `src/ninja/mod.rs`: rule/build blocks and their `Display`, symbolic hashes. -/
namespace Laze

/-- Hash values are symbolic: a token that spells out the hash *input*. Two tokens are equal iff the
    inputs are equal — this is the `HashOK` assumption on `DefaultHasher` (no collision within a run).
    `\x01 … \x02` delimit a token; the harness renumbers tokens by first occurrence. -/
def hashTok (kind : String) (payload : String) : String := "\x01" ++ kind ++ ":" ++ payload ++ "\x02"

/-- length-prefixed (hence injective) encoding of a hashed string field -/
def enc (s : String) : String := toString s.length ++ "#" ++ s
def optS (o : Option String) : String := match o with | some s => "S" ++ enc s | none => "N"

structure NinjaRule where
  name : String
  command : String
  description : Option String := none
  deps : Option String := none          -- `NinjaRuleDeps::GCC(depfile)`
  rspfile : Option String := none
  rspfileContent : Option String := none
  pool : Option String := none
  always : Bool := false
  «export» : Option (List VarExport) := none
  deriving Repr, BEq, DecidableEq

/-- `impl Hash for NinjaRule` (+ `get_hash(None)`): name, command, description, deps (if GCC),
    pool (if set), `always` (if set), rspfile, rspfile_content, depfile again. `export` is not hashed
    (it is already part of the command). -/
def NinjaRule.hash (r : NinjaRule) : String :=
  hashTok "rule" (enc r.name ++ "|" ++ enc r.command ++ "|" ++ optS r.description ++ "|" ++ optS r.deps ++ "|"
    ++ optS r.pool ++ "|" ++ optS r.rspfile ++ "|" ++ optS r.rspfileContent ++ (if r.always then "|always" else ""))

/-- `trim_end_matches(['\n', '\r'])` -/
def trimLineEnd (s : String) : String :=
  String.ofList (s.toList.reverse.dropWhile (fun c => c == '\n' || c == '\r')).reverse

def hasLineBreak (s : String) : Bool := s.toList.contains '\n'

def optHasLineBreak : Option String → Bool
  | some s => hasLineBreak s
  | none => false

/-- `NinjaRule::single_line`: a line break that ends the command or the description is dropped (a YAML block scalar ends with one);
    a line break anywhere else in a printed value is refused — a ninja value ends with its line (the code before the repair wrote
    the value as it was, which cut the rule block in two; found by C06's oracle) -/
def NinjaRule.singleLine (r : NinjaRule) : Option NinjaRule :=
  let r' := { r with command := trimLineEnd r.command, description := r.description.map trimLineEnd }
  if hasLineBreak r'.command || optHasLineBreak r'.description || optHasLineBreak r'.rspfile
      || optHasLineBreak r'.rspfileContent || optHasLineBreak r'.pool || optHasLineBreak r'.deps then none
  else some r'

/-- `NinjaRule::named` -/
def NinjaRule.named (r : NinjaRule) : NinjaRule := { r with name := r.name ++ "_" ++ r.hash }

def NinjaRule.render (r : NinjaRule) : String :=
  "rule " ++ r.name ++ "\n  command = " ++ r.command ++ "\n" ++
  (match r.description with | some d => "  description = " ++ d ++ "\n" | none => "") ++
  (match r.deps with | some d => "  deps = gcc\n  depfile = " ++ d ++ "\n" | none => "") ++
  (match r.rspfile with | some d => "  rspfile = " ++ d ++ "\n" | none => "") ++
  (match r.rspfileContent with | some d => "  rspfile_content = " ++ d ++ "\n" | none => "") ++
  (match r.pool with | some d => "  pool = " ++ d ++ "\n" | none => "") ++ "\n"

structure NinjaBuild where
  rule : String
  inputs : Option (List String) := none
  outs : List String
  deps : Option (List String) := none
  env : Option (List (String × String)) := none
  always : Bool := false
  deriving Repr, BEq, DecidableEq

def NinjaBuild.render (b : NinjaBuild) : String :=
  "build" ++ String.join (b.outs.map (" " ++ ·)) ++ ": $\n    " ++ b.rule ++
  String.join ((b.inputs.getD []).map (" $\n    " ++ ·)) ++
  (if b.deps.isSome || b.always then
     " $\n    |" ++ String.join ((b.deps.getD []).map (" $\n    " ++ ·)) ++
     (if b.always then " $\n    ALWAYS" else "")
   else "") ++ "\n" ++
  String.join ((b.env.getD []).map (fun (k, v) => "  " ++ k ++ " = " ++ v ++ "\n")) ++ "\n"

/-- `NinjaBuildBuilder::from_rule(rule)` + `.outs()` (sorted) + `.deps()` (sorted) -/
def buildFromRule (r : NinjaRule) (inputs : Option (List String)) (outs : List String)
    (deps : Option (List String)) : NinjaBuild :=
  { rule := r.name, inputs := inputs, outs := outs, deps := deps.map pathSort, always := r.always }

/-- `ninja::alias(input, alias)` -/
def ninjaAlias (input alias : String) : String :=
  ({ rule := "phony", inputs := some [input], outs := [alias] } : NinjaBuild).render

/-- `ninja::alias_multiple(inputs, alias)` -/
def ninjaAliasMultiple (inputs : List String) (alias : String) : String :=
  ({ rule := "phony", inputs := some inputs, outs := [alias] } : NinjaBuild).render

/-- `utils::calculate_hash(&Vec<path>)` -/
def hashPaths (kind : String) (l : List String) : String := hashTok kind (String.join (l.map (fun p => enc p ++ ";")))

/-- `rule_hash ^ build_deps_hash` where the second operand is `0` when there are no build deps -/
def hashXor (a : String) (b : Option String) : String :=
  match b with
  | none => a
  | some b => hashTok "xor" (a ++ "^" ++ b)

end Laze
