/-! Model of the context tree (`src/model/context_bag.rs`, `context.rs`, `blockallow.rs`):
    parent chains, ancestor test, allow/block decision. -/
namespace Laze

abbrev Name := String

structure CtxT where
  name : Name
  parent : Option Name          -- `none` only for the root ("default")
  deriving Repr

abbrev Tree := List CtxT

def Tree.ctx? (t : Tree) (n : Name) : Option CtxT := t.find? (·.name == n)

/-- chain from a context up to the root: `[c, parent c, …]`; fuel = number of contexts -/
def Tree.chainUp (t : Tree) : Nat → Name → List Name
  | 0, _ => []
  | fuel+1, n => match t.ctx? n with
    | none => []
    | some c => n :: (match c.parent with | none => [] | some p => t.chainUp fuel p)

def Tree.chain (t : Tree) (n : Name) : List Name := t.chainUp (t.length + 1) n

/-- `is_ancestor(anc, c, 0)`: depth of `anc` above `c` if it is `c` or an ancestor of `c` -/
def Tree.depthOf (t : Tree) (anc c : Name) : Option Nat :=
  let ch := t.chain c
  let i := ch.idxOf anc
  if i < ch.length then some i else none

/-- one iteration of the loop in `is_ancestor_in_list`: unknown names are skipped, a listed
    ancestor replaces the best so far only if it is strictly nearer -/
def Tree.nearestStep (t : Tree) (c : Name) (best : Option (Name × Nat)) (x : Name) : Option (Name × Nat) :=
  match t.ctx? x with
  | none => best
  | some _ =>
    match t.depthOf x c with
    | none => best
    | some d => match best with
      | some (_, bd) => if bd ≤ d then best else some (x, d)
      | none => some (x, d)

/-- `is_ancestor_in_list`: the nearest listed ancestor (name, depth) -/
def Tree.nearestIn (t : Tree) (c : Name) (l : List Name) : Option (Name × Nat) :=
  l.foldl (t.nearestStep c) none

inductive Verdict where
  | allowed | allowedBy (n : Name) | blocked | blockedBy (n : Name)
  deriving DecidableEq, Repr

def Verdict.ok : Verdict → Bool
  | .allowed | .allowedBy _ => true
  | _ => false

def Verdict.allow (n : Name) : Nat → Verdict | 0 => .allowed | _ => .allowedBy n
def Verdict.block (n : Name) : Nat → Verdict | 0 => .blocked | _ => .blockedBy n

/-- the decision of `is_allowed` given the nearest listed ancestors of both lists
    (outer `none`: the list is absent) -/
def isAllowedCore (a b : Option (Option (Name × Nat))) : Verdict :=
  match a, b with
  | some a, some b =>
    (match a, b with
     | some (an, ad), some (bn, bd) => if ad > bd then Verdict.block bn bd else Verdict.allow an ad
     | some (an, ad), none => Verdict.allow an ad
     | none, some (bn, bd) => Verdict.block bn bd
     | none, none => .allowed)
  | some a, none => if a.isNone then .blocked else .allowed
  | none, some b => (match b with | some (bn, bd) => Verdict.block bn bd | none => .allowed)
  | none, none => .allowed

/-- `ContextBag::is_allowed` -/
def Tree.isAllowed (t : Tree) (c : Name) (block allow : Option (List Name)) : Verdict :=
  isAllowedCore (allow.map (t.nearestIn c)) (block.map (t.nearestIn c))

end Laze
