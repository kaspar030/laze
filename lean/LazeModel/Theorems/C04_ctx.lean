import LazeModel.Lemmas.Bag
import LazeModel.Lemmas.ExceptFold
import LazeModel.Theorems.C17_inherit
/-! C04, the env of a context after `finalize`: the left fold of the own envs along the chain root → context
    (`ctx_env_is_fold`): the env pass as an instance of `pass_inherited` (Lemmas/Finalize). -/
namespace Laze.C04
open Laze Laze.C09

/-- parent env first, own env on top (a context without `env:` inherits the parent's env as is;
    below a context without any env the own env stands alone) -/
def optMerge : Option Env → Option Env → Option Env
  | some p, some e => some (p.merge e)
  | some p, none => some p
  | none, c => c

@[simp] theorem optMerge_none_left (c : Option Env) : optMerge none c = c := rfl

/-- the env / the parent of the context called `n` in a bag -/
def envOf (cs : List Context) (n : Name) : Option Env := (findCtx cs n).bind (·.env)
def parOf (cs : List Context) (n : Name) : Option (Option Name) := (findCtx cs n).map (·.parent)

theorem envOnParent_env (penv : Env) (c : Context) :
    (envOnParent penv c).env = optMerge (some penv) c.env := by
  unfold envOnParent
  dsimp only
  cases c.env <;> rfl


/-- what the env pass makes of `c` below `par`: the parent's env with the own env on top -/
def envStep (par c : Context) : Context := { c with env := optMerge par.env c.env }

theorem mergeParentEnv_step {cs : List Context} {n : Name} {k : Nat} {c par : Context}
    (hk : k ≠ 0) (hc : findCtx cs n = some c) (hp : parentCtx cs c = some par) (n' : Name) :
    findCtx (mergeParentEnv cs (n, k)) n' = if n' = n then some (envStep par c) else findCtx cs n' := by
  unfold mergeParentEnv
  rw [if_neg (by simpa using hk)]
  simp only [hc, hp]
  cases hpe : par.env with
  | none =>
    -- a parent without env: the bag stays as it is, and `envStep par c` is `c`
    dsimp only
    split
    · next hn => rw [hn, hc, envStep, hpe]; rfl
    · rfl
  | some penv =>
    have he : envOnParent penv c = envStep par c := by
      rw [envStep, hpe, envOnParent]
      cases c.env <;> rfl
    rw [← he]
    exact findCtx_updateCtx hc (envOnParent penv) (fun _ => rfl) n'

theorem mergeParentEnv_pass : PassStep mergeParentEnv envStep where
  upd := mergeParentEnv_step
  skip := fun {cs n k} h => by
    unfold mergeParentEnv
    split
    · rfl
    · next hk =>
      cases hc : findCtx cs n with
      | none => rfl
      | some c => dsimp only; rw [h.resolve_left (by simpa using hk) c hc]

/-- the env pass changes no context's parent -/
theorem foldl_mergeParentEnv_parOf (sorted : List (Name × Nat)) (cs : List Context) (n' : Name) :
    parOf (sorted.foldl mergeParentEnv cs) n' = parOf cs n' := by
  unfold parOf
  rw [Option.map_eq_bind, Option.map_eq_bind]
  exact mergeParentEnv_pass.foldl_keeps (fun _ _ => rfl) sorted cs n'

/-- the var_options pass does not touch envs -/
theorem inheritAll_envOf (cs : List Context) (sorted : List (Name × Nat)) (n' : Name) :
    envOf (inheritAll cs sorted) n' = envOf (sorted.foldl mergeParentEnv cs) n' :=
  C17.inheritVarOptions_pass.foldl_keeps (fun _ _ => rfl) sorted _ n'

/-! ### the chain fold -/

/-- run down the chain, the env pass computes the left fold of `optMerge` over the own envs of the
    contexts on the chain `[n, parent n, …, root]`, taken from the root down -/
theorem inherited_env_eq_fold {cs : List Context} {n : Name} {c' : Context}
    (h : Inherited cs envStep n c') : ∀ f k, countParents cs f n = some k →
      c'.env = (((Bag.mk cs).tree.chainUp f n).reverse.map (envOf cs)).foldl optMerge none := by
  induction h with
  | @root n c hc hp =>
    intro f k hcount
    cases f with
    | zero => cases hcount
    | succ f => rw [Bag.chainUp_succ (b := ⟨cs⟩) hc, hp]; exact (congrArg (Option.bind · (·.env)) hc).symm
  | @up n c p par' hc hp _ ih =>
    intro f k hcount
    cases f with
    | zero => cases hcount
    | succ f =>
      obtain ⟨kp, hkp, _⟩ := countParents_parent hcount hc hp
      rw [Bag.chainUp_succ (b := ⟨cs⟩) hc, hp, Option.elim_some, List.reverse_cons, List.map_append,
        List.foldl_append, ← ih f kp hkp]
      exact (congrArg (fun o => optMerge par'.env (o.bind (·.env))) hc).symm

theorem finalize_inherited {cs0 cs : List Context} {sorted : List (Name × Nat)}
    (h : finalize cs0 = .ok (cs, sorted)) (hnd : (cs0.map (·.name)).Nodup)
    {n : Name} {c : Context} (hc : findCtx (withDefaultContext cs0) n = some c) :
    ∃ c', envOf cs n = c'.env ∧ Inherited (withDefaultContext cs0) envStep n c' ∧
      ∃ k, countParents (withDefaultContext cs0) ((withDefaultContext cs0).length + 1) n = some k := by
  obtain ⟨rfl, hpn, hcnt, hpf, hco⟩ := finalize_sorted h
  have hn : n ∈ sorted.map (·.1) :=
    hpn.mem_iff.2 (List.mem_map.2 ⟨c, List.mem_of_find?_eq_some hc, findCtx_name hc⟩)
  obtain ⟨c', h1, h2⟩ := pass_inherited mergeParentEnv_pass _ sorted
    (hpn.nodup_iff.2 (withDefaultContext_nodup hnd)) hpf hco n c hc hn
  obtain ⟨x, hx, rfl⟩ := List.mem_map.1 hn
  exact ⟨c', by rw [inheritAll_envOf, envOf, h1]; rfl, h2, x.2, hcnt x hx⟩

/-- **C04 (context env).**  After `finalize`, the env of every context is the left fold of
    `optMerge` (= `Env.merge` where both sides have an env) over the own envs of the contexts on its
    chain, from the root down to the context itself. -/
theorem ctx_env_is_fold {cs0 cs : List Context} {sorted : List (Name × Nat)}
    (h : finalize cs0 = .ok (cs, sorted)) (hnd : (cs0.map (·.name)).Nodup)
    (n : Name) (hn : n ∈ (withDefaultContext cs0).map (·.name)) :
    envOf cs n =
      ((((Bag.mk (withDefaultContext cs0)).chain n).reverse.map
        (envOf (withDefaultContext cs0))).foldl optMerge none) := by
  obtain ⟨c, hc⟩ := findCtx_of_mem_names hn
  obtain ⟨c', h1, h2, k, hk⟩ := finalize_inherited h hnd hc
  unfold Bag.chain Tree.chain
  rw [h1, Bag.tree, List.length_map]
  exact inherited_env_eq_fold h2 _ k hk

/-- two-level corollary: a child of a root context gets `root env ⊕ own env` -/
theorem ctx_env_two_level {cs0 cs : List Context} {sorted : List (Name × Nat)}
    (h : finalize cs0 = .ok (cs, sorted)) (hnd : (cs0.map (·.name)).Nodup)
    {c par : Context} {p : Name} {pe e : Env}
    (hc : findCtx (withDefaultContext cs0) c.name = some c) (hcp : c.parent = some p)
    (hpar : findCtx (withDefaultContext cs0) p = some par) (hroot : par.parent = none)
    (hpe : par.env = some pe) (he : c.env = some e) :
    envOf cs c.name = some (pe.merge e) := by
  obtain ⟨c', h1, h2, _⟩ := finalize_inherited h hnd hc
  rw [h1]
  cases h2 with
  | root hc' hp' => rw [hc] at hc'; cases hc'; rw [hcp] at hp'; cases hp'
  | up hc' hp' hpar' =>
    rw [hc] at hc'; cases hc'; rw [hcp] at hp'; cases hp'
    cases hpar' with
    | root hpc _ => rw [hpar] at hpc; cases hpc; rw [envStep, hpe, he]; rfl
    | up hpc hpp _ => rw [hpar] at hpc; cases hpc; rw [hroot] at hpp; cases hpp

/-- so for the bag the loader builds, `ctx_env_is_fold` applies without further assumptions -/
theorem loader_ctx_env_is_fold {docs : List LDoc} {cc : List Context × List Module}
    {cs : List Context} {sorted : List (Name × Nat)}
    (hcc : convertContextsOfDocs docs ([], []) = .ok cc) (h : finalize cc.1 = .ok (cs, sorted))
    (n : Name) (hn : n ∈ (withDefaultContext cc.1).map (·.name)) :
    envOf cs n =
      ((((Bag.mk (withDefaultContext cc.1)).chain n).reverse.map
        (envOf (withDefaultContext cc.1))).foldl optMerge none) :=
  ctx_env_is_fold h (convertContextsOfDocs_nodup docs hcc List.nodup_nil) n hn

/-! ## a concrete instance -/

/-- three levels, listed leaf first: `finalize` processes parents before children -/
def exCtxs : List Context :=
  [{ name := "leaf", parent := some "mid", env := some [("A", .list ["3"]), ("B", .single "leaf")] },
   { name := "mid", parent := some "default", env := some [("A", .list ["2"]), ("B", .single "mid")] },
   { name := "default", parent := none, env := some [("A", .list ["1"])] }]

example : (finalize exCtxs).toOption.map (fun p => (envOf p.1 "leaf", p.2)) =
    some (some [("A", .list ["1", "2", "3"]), ("B", .single "leaf")],
      [("default", 0), ("mid", 1), ("leaf", 2)]) := by decide +kernel
example : (Bag.mk (withDefaultContext exCtxs)).chain "leaf" = ["leaf", "mid", "default"] := by decide +kernel
example : ((withDefaultContext exCtxs).map (·.name)).Nodup := by decide +kernel

/-- the hypotheses of `ctx_env_is_fold` hold here -/
example : ∃ cs sorted, finalize exCtxs = .ok (cs, sorted) ∧ (exCtxs.map (·.name)).Nodup ∧
    "leaf" ∈ (withDefaultContext exCtxs).map (·.name) := ⟨_, _, rfl, by decide, by decide⟩

end Laze.C04
