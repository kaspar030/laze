import LazeModel.Model.Expr
import LazeModel.Lemmas.List
/-! C13 (continued) — the fuel arguments of the model are never exhausted, and the substitution
    is exact for a single reference. -/
namespace Laze.C13
open Laze

/-! ### `findSub` -/

theorem isPrefix_length : ∀ (pat l : Bytes), isPrefix pat l = true → pat.length ≤ l.length
  | [], _, _ => by simp
  | _ :: _, [], h => by simp [isPrefix] at h
  | a :: as, b :: bs, h => by
    simp only [isPrefix, Bool.and_eq_true] at h
    have := isPrefix_length as bs h.2
    simp only [List.length_cons]
    omega

theorem findSub_cons (pat : Bytes) (x : UInt8) (l : Bytes) :
    findSub pat (x :: l) = if isPrefix pat (x :: l) then some 0 else (findSub pat l).map (· + 1) := rfl

theorem findSub_bound (pat : Bytes) (hp : pat ≠ []) :
    ∀ (l : Bytes) (i : Nat), findSub pat l = some i → i + pat.length ≤ l.length := by
  intro l
  induction l with
  | nil =>
    intro i h
    cases pat with
    | nil => exact absurd rfl hp
    | cons a as => simp [findSub] at h
  | cons b tl ih =>
    intro i h
    rw [findSub_cons] at h
    split at h
    · rename_i hpre
      cases h
      have := isPrefix_length _ _ hpre
      omega
    · obtain ⟨j, hf, rfl⟩ := Option.map_eq_some_iff.1 h
      have := ih j hf
      simp only [List.length_cons]
      omega

/-! ### the errors of the expander -/

theorem scan_error (f : Bytes) : ∀ fuel cursor acc esc e, scan f fuel cursor acc esc = .error e →
    (∃ p, e = .unclosed p) ∨ (e = .fuel ∧ fuel ≤ f.length - cursor) := by
  intro fuel
  induction fuel with
  | zero =>
    intro cursor acc esc e h
    cases h
    exact Or.inr ⟨rfl, Nat.zero_le _⟩
  | succ n ih =>
    intro cursor acc esc e h
    -- every iteration moves the cursor forward
    have step : ∀ {c' acc' esc'}, cursor < f.length → cursor < c' → scan f n c' acc' esc' = .error e →
        (∃ p, e = .unclosed p) ∨ (e = .fuel ∧ n + 1 ≤ f.length - cursor) := fun hc hlt h' =>
      (ih _ _ _ _ h').imp_right fun ⟨hf, hl⟩ => ⟨hf, Nat.lt_of_le_of_lt hl (Nat.sub_lt_sub_left hc hlt)⟩
    unfold scan at h
    split at h
    · next hc =>
      split at h
      · cases h
      · split at h
        · exact step hc (by omega) h
        · dsimp only at h
          split at h
          · cases h; exact Or.inl ⟨_, rfl⟩
          · exact step hc (by omega) h
    · cases h

theorem scan_top_error {f : Bytes} {e : XErr} (h : scan f (f.length + 1) 0 [] false = .error e) :
    ∃ p, e = .unclosed p := by
  rcases scan_error f _ _ _ _ _ h with hu | ⟨_, hl⟩
  · exact hu
  · exact absurd hl (Nat.not_succ_le_self _)

/-- the first loop of `expand_recursive` terminates within `len + 1` iterations -/
theorem scan_no_fuel (f : Bytes) : scan f (f.length + 1) 0 [] false ≠ .error .fuel :=
  fun h => nomatch scan_top_error h

example : scan [36,123,65,125,92,36,123,36,123,66,125] 12 0 [] false
    = .ok ([⟨[65], 0, 4⟩, ⟨[66], 7, 11⟩], true) := by decide +kernel

/-! ### the second loop puts `repl` in place of every reference -/

/-- what is put in place of a reference to `key`: the body of the loop in `subst`, without the
    bookkeeping of positions -/
def repl (r : Vars) (pol : Policy) (rec : XRec) (seen : List Bytes) (key : Bytes) : Except XErr Bytes :=
  if seen.contains key then .error (.cycle key) else
    match r.get key with
    | some val => rec val (seen ++ [key])
    | none =>
      match pol with
      | .error => .error (.missing key)
      | .ignore => .ok (dollarBrace ++ key ++ closeBrace)
      | .empty => .ok []

theorem subst_cons (r : Vars) (pol : Policy) (rec : XRec) (f : Bytes) (seen : List Bytes) (rep : Rep)
    (reps : List Rep) (cursor : Nat) (res : Bytes) :
    subst r pol rec f seen (rep :: reps) cursor res =
      repl r pol rec seen rep.key >>= fun v =>
        subst r pol rec f seen reps rep.stop (res ++ (f.drop cursor).take (rep.start - cursor) ++ v) := by
  conv => lhs; unfold subst
  unfold repl
  dsimp only
  by_cases hs : seen.contains rep.key = true
  · rw [if_pos hs, if_pos hs]
    rfl
  · rw [if_neg hs, if_neg hs]
    cases r.get rep.key with
    | some val =>
      dsimp only
      cases rec val (seen ++ [rep.key]) <;> rfl
    | none =>
      cases pol
      · rfl
      · simp only [bind, Except.bind, List.append_assoc]
      · simp only [bind, Except.bind, List.append_nil]

theorem repl_seen {r : Vars} {pol : Policy} {rec : XRec} {seen : List Bytes} {k : Bytes} (hs : k ∈ seen) :
    repl r pol rec seen k = .error (.cycle k) :=
  if_pos (List.contains_iff_mem.2 hs)

theorem repl_some {r : Vars} {pol : Policy} {rec : XRec} {seen : List Bytes} {k val : Bytes}
    (hs : k ∉ seen) (hr : r.get k = some val) : repl r pol rec seen k = rec val (seen ++ [k]) := by
  unfold repl
  rw [if_neg fun h => hs (List.contains_iff_mem.1 h), hr]

theorem repl_none {r : Vars} {pol : Policy} {rec : XRec} {seen : List Bytes} {k : Bytes}
    (hs : k ∉ seen) (hr : r.get k = none) :
    repl r pol rec seen k =
      match pol with
      | .error => .error (.missing k)
      | .ignore => .ok (dollarBrace ++ k ++ closeBrace)
      | .empty => .ok [] := by
  unfold repl
  rw [if_neg fun h => hs (List.contains_iff_mem.1 h), hr]

theorem repl_error {r : Vars} {pol : Policy} {rec : XRec} {seen : List Bytes} {k : Bytes} {e : XErr}
    (h : repl r pol rec seen k = .error e) :
    (k ∈ seen ∧ e = .cycle k) ∨ (r.get k = none ∧ pol = .error ∧ e = .missing k) ∨
      (k ∉ seen ∧ ∃ val, r.get k = some val ∧ rec val (seen ++ [k]) = .error e) := by
  by_cases hs : k ∈ seen
  · rw [repl_seen hs] at h
    cases h
    exact Or.inl ⟨hs, rfl⟩
  · cases hr : r.get k with
    | some val =>
      rw [repl_some hs hr] at h
      exact Or.inr (Or.inr ⟨hs, val, rfl, h⟩)
    | none =>
      rw [repl_none hs hr] at h
      cases pol <;> cases h
      exact Or.inr (Or.inl ⟨rfl, rfl, rfl⟩)

theorem subst_error (r : Vars) (pol : Policy) (rec : XRec) (f : Bytes) (seen : List Bytes) :
    ∀ reps cursor res e, subst r pol rec f seen reps cursor res = .error e →
      ∃ k, repl r pol rec seen k = .error e := by
  intro reps
  induction reps with
  | nil => intro cursor res e h; cases h
  | cons rep reps ih =>
    intro cursor res e h
    rw [subst_cons] at h
    cases hv : repl r pol rec seen rep.key with
    | error e' => rw [hv] at h; cases h; exact ⟨rep.key, hv⟩
    | ok v => rw [hv] at h; exact ih _ _ _ h

theorem expandStep_error {r : Vars} {pol : Policy} {rec : XRec} {f : Bytes} {seen : List Bytes} {e : XErr}
    (h : expandStep r pol rec f seen = .error e) :
    (∃ p, e = .unclosed p) ∨ ∃ k, repl r pol rec seen k = .error e := by
  unfold expandStep at h
  split at h
  · rename_i e' he; cases h; exact Or.inl (scan_top_error he)
  · split at h
    · rename_i e' he; cases h; exact Or.inr (subst_error _ _ _ _ _ _ _ _ _ he)
    · cases h

/-! ### the recursion depth is bounded by the number of variables -/

theorem get_some_mem_keys (r : Vars) (k v : Bytes) (h : r.get k = some v) : k ∈ r.map (·.1) := by
  obtain ⟨p, hf, _⟩ := Option.map_eq_some_iff.1 h
  exact List.mem_map.2 ⟨p, List.mem_of_find?_eq_some hf, eq_of_beq (List.find?_some (p := fun x : Bytes × Bytes => x.1 == k) hf)⟩

/-- **every error of the expander**: an unclosed reference, a cycle, a name that `r` lacks under
    the `Error` policy — or the fuel marker, if the fuel is short of the keys not yet on the path -/
theorem expandRec_error (r : Vars) (pol : Policy) : ∀ n f (seen : List Bytes) e,
    seen.Nodup → (∀ k ∈ seen, k ∈ r.map (·.1)) → expandRec r pol n f seen = .error e →
    (∃ p, e = .unclosed p) ∨ (∃ k, e = .cycle k) ∨ (∃ k, r.get k = none ∧ pol = .error ∧ e = .missing k) ∨
      (e = .fuel ∧ n + seen.length ≤ r.length) := by
  intro n
  induction n with
  | zero =>
    intro f seen e hn hs h
    cases h
    have := hn.length_le_of_subset (fun k hk => hs k hk)
    rw [List.length_map] at this
    exact Or.inr (Or.inr (Or.inr ⟨rfl, by rwa [Nat.zero_add]⟩))
  | succ n ih =>
    intro f seen e hn hs h
    rcases expandStep_error h with hu | ⟨k, hk⟩
    · exact Or.inl hu
    · rcases repl_error hk with hk | hk | ⟨hk, val, hval, hrec⟩
      · exact Or.inr (Or.inl ⟨k, hk.2⟩)
      · exact Or.inr (Or.inr (Or.inl ⟨k, hk⟩))
      · -- the value is expanded with one more key on the path and one unit of fuel less
        have := ih val _ e (List.nodup_snoc.2 ⟨hn, hk⟩)
          (List.forall_mem_append.2 ⟨hs, List.forall_mem_singleton.2 (get_some_mem_keys r k val hval)⟩) hrec
        rw [List.length_append, List.length_singleton, ← Nat.add_assoc, Nat.add_right_comm] at this
        exact this

theorem expand_error {r : Vars} {pol : Policy} {f : Bytes} {e : XErr} (h : expand r pol f = .error e) :
    (∃ p, e = .unclosed p) ∨ (∃ k, e = .cycle k) ∨ ∃ k, r.get k = none ∧ pol = .error ∧ e = .missing k := by
  rcases expandRec_error r pol _ f [] e List.nodup_nil (fun _ h => nomatch h) h with h | h | h | ⟨_, h⟩
  · exact Or.inl h
  · exact Or.inr (Or.inl h)
  · exact Or.inr (Or.inr h)
  · exact absurd h (by simp only [List.length_nil, Nat.add_zero]; omega)

/-- `expand` never runs out of the model's recursion fuel: a key may occur only once on a
    recursion path (a second occurrence is a `Cycle`), so the depth is at most `r.length + 1` -/
theorem fuel_suffices (r : Vars) (pol : Policy) (f : Bytes) : expand r pol f ≠ .error .fuel := by
  intro h
  rcases expand_error h with ⟨_, h⟩ | ⟨_, h⟩ | ⟨_, _, _, h⟩ <;> cases h

-- a chain of maximal depth: A ↦ "${B}", B ↦ "x"
example : expand [([65], [36,123,66,125]), ([66], [120])] .error [36,123,65,125] = .ok [120] := by
  decide +kernel

/-! ### a single reference `a ++ "${" ++ k ++ "}" ++ b` in marker-free context -/

/-- `a ++ "${" ++ k ++ "}" ++ b` holds one reference, and its key is `k`: `a` and `b` contain no `${`, `a` does not end in a
    backslash (else the reference is an escape), `k` contains no `}` (else the key ends earlier) -/
structure SingleRef (a k b : Bytes) : Prop where
  pre : findSub dollarBrace a = none
  esc : a.getLast? ≠ some backslash
  key : (125 : UInt8) ∉ k
  post : findSub dollarBrace b = none

theorem findSub_db_append (t a : Bytes) (h : findSub dollarBrace a = none) :
    findSub dollarBrace (a ++ 36 :: 123 :: t) = some a.length := by
  induction a with
  | nil => rfl
  | cons x a ih =>
    rw [findSub_cons] at h
    by_cases hp : isPrefix dollarBrace (x :: a) = true
    · rw [if_pos hp] at h
      cases h
    · rw [if_neg hp] at h
      -- `x :: a` does not begin with `${`; neither does `x :: (a ++ "${" ++ t)`, whose second byte is
      -- that of `x :: a`, or `$`
      have hp' : isPrefix dollarBrace (x :: (a ++ 36 :: 123 :: t)) = false := by
        cases a with
        | nil =>
          exact (congrArg (_ && ·) (show ((123 : UInt8) == 36 && true) = false from rfl)).trans (Bool.and_false _)
        | cons y a => exact Bool.eq_false_iff.2 hp
      rw [List.cons_append, findSub_cons, hp', ih (Option.map_eq_none_iff.1 h)]
      rfl

theorem findSub_cb (b k : Bytes) (h : (125 : UInt8) ∉ k) :
    findSub closeBrace (k ++ 125 :: b) = some k.length := by
  induction k with
  | nil => rfl
  | cons x k ih =>
    have hx : isPrefix closeBrace (x :: (k ++ 125 :: b)) = false :=
      (Bool.and_true _).trans (beq_eq_false_iff_ne.2 (List.ne_of_not_mem_cons h))
    rw [List.cons_append, findSub_cons, hx, ih (List.not_mem_of_not_mem_cons h)]
    rfl

theorem scan_tail (f : Bytes) (fuel cursor : Nat) (acc : List Rep) (esc : Bool)
    (h : findSub dollarBrace (f.drop cursor) = none) :
    scan f (fuel + 1) cursor acc esc = .ok (acc, esc) := by
  unfold scan
  simp only [h]
  split <;> rfl

theorem scan_ref (f : Bytes) (fuel cursor : Nat) (acc : List Rep) (esc : Bool) {start e : Nat}
    (hc : cursor < f.length) (hs : findSub dollarBrace (f.drop cursor) = some start)
    (hesc : (decide (start > 0) && f.getD (cursor + start - 1) 0 == backslash) = false)
    (he : findSub closeBrace (f.drop (start + cursor)) = some e) :
    scan f (fuel + 1) cursor acc esc =
      scan f fuel (e + (start + cursor) + 1)
        (acc ++ [⟨(f.drop (start + cursor + 2)).take (e + (start + cursor) - (start + cursor + 2)),
          start + cursor, e + (start + cursor) + 1⟩]) esc := by
  conv => lhs; unfold scan
  rw [if_pos hc, hs]
  dsimp only
  rw [hesc, he]
  rfl

/-- the escape test of `scan`, as it stands at cursor 0 with the first `${` at `a.length` -/
theorem not_escaped (a t : Bytes) (h : a.getLast? ≠ some 92) :
    (decide (a.length > 0) && (a ++ t).getD (0 + a.length - 1) 0 == backslash) = false := by
  by_cases hpos : 0 < a.length
  · have hlt : a.length - 1 < a.length := Nat.sub_lt hpos Nat.one_pos
    rw [List.getLast?_eq_getElem?, List.getElem?_eq_getElem hlt] at h
    rw [Nat.zero_add, List.getD_eq_getElem?_getD, List.getElem?_append_left hlt, List.getElem?_eq_getElem hlt,
      Option.getD_some, decide_eq_true hpos, Bool.true_and]
    exact beq_eq_false_iff_ne.2 fun e => h (congrArg some e)
  · rw [decide_eq_false hpos, Bool.false_and]

theorem drop_single (a k b : Bytes) :
    List.drop (k.length + 2 + a.length + 1) (a ++ 36 :: 123 :: (k ++ 125 :: b)) = b := by
  have h : k.length + 2 + a.length + 1 = a.length + (k.length + 1 + 2) := by omega
  rw [h, List.drop_length_add_append, List.drop_succ_cons, List.drop_succ_cons, List.drop_length_add_append]
  rfl

theorem scan_single {a k b : Bytes} (h : SingleRef a k b) :
    scan (a ++ 36 :: 123 :: (k ++ 125 :: b)) ((a ++ 36 :: 123 :: (k ++ 125 :: b)).length + 1) 0 [] false
      = .ok ([⟨k, a.length, k.length + 2 + a.length + 1⟩], false) := by
  have hlen : 0 < (a ++ 36 :: 123 :: (k ++ 125 :: b)).length :=
    List.length_pos_iff.2 (List.append_ne_nil_of_right_ne_nil a (List.cons_ne_nil _ _))
  obtain ⟨fuel, hfuel⟩ : ∃ fuel, (a ++ 36 :: 123 :: (k ++ 125 :: b)).length + 1 = fuel + 1 + 1 :=
    ⟨_, congrArg (· + 1) (Nat.succ_pred_eq_of_pos hlen).symm⟩
  have hcb : findSub closeBrace (36 :: 123 :: (k ++ 125 :: b)) = some (k.length + 2) := by
    show ((findSub closeBrace (k ++ 125 :: b)).map (· + 1)).map (· + 1) = _
    rw [findSub_cb b k h.key]
    rfl
  rw [hfuel, scan_ref _ _ 0 [] false hlen (findSub_db_append _ _ h.pre) (not_escaped a _ h.esc)
    (by rw [Nat.add_zero, List.drop_left]; exact hcb)]
  simp only [Nat.add_zero, List.nil_append]
  rw [scan_tail _ _ _ _ _ (by rw [drop_single]; exact h.post)]
  -- the key is what stands between `${` and `}`
  rw [List.drop_length_add_append, Nat.add_right_comm, Nat.add_assoc, Nat.add_sub_cancel]
  exact congrArg (fun key => Except.ok ([Rep.mk key a.length _], false)) List.take_left

theorem tail_append (f res : Bytes) (c : Nat) :
    (if c < f.length then res ++ f.drop c else res) = res ++ f.drop c := by
  split
  · rfl
  · rw [List.drop_eq_nil_of_le (by omega)]; simp

theorem step_single (r : Vars) (pol : Policy) (rec : XRec) (seen : List Bytes) {a k b : Bytes} (h : SingleRef a k b) :
    expandStep r pol rec (a ++ 36 :: 123 :: (k ++ 125 :: b)) seen =
      (repl r pol rec seen k).map (fun v => a ++ v ++ b) := by
  unfold expandStep
  rw [scan_single h]
  dsimp only
  rw [subst_cons]
  cases repl r pol rec seen k with
  | error e => rfl
  | ok v =>
    simp only [bind, Except.bind, subst, Bool.false_eq_true, if_false]
    rw [tail_append, drop_single, List.drop_zero, Nat.sub_zero, List.take_left, List.nil_append]
    rfl

theorem ref_shape (a k b : Bytes) :
    a ++ dollarBrace ++ k ++ closeBrace ++ b = a ++ 36 :: 123 :: (k ++ 125 :: b) := by
  simp [dollarBrace, closeBrace]

theorem rec_no_marker (r : Vars) (pol : Policy) (n : Nat) (f : Bytes) (seen : List Bytes)
    (h : findSub dollarBrace f = none) : expandRec r pol (n + 1) f seen = .ok f := by
  unfold expandRec expandStep
  rw [scan_tail f _ 0 [] false (by rwa [List.drop_zero])]
  simp only [subst, Bool.false_eq_true, if_false]
  rw [tail_append, List.drop_zero, List.nil_append]

theorem expand_single (r : Vars) (pol : Policy) {a k b : Bytes} (h : SingleRef a k b) :
    expand r pol (a ++ dollarBrace ++ k ++ closeBrace ++ b) =
      (repl r pol (expandRec r pol (r.length + 1)) [] k).map (fun v => a ++ v ++ b) := by
  rw [ref_shape]
  exact step_single r pol _ [] h

/-- a variable whose value refers to itself (each time as the only reference of a marker-free
    context) is reported as `Cycle`, under every policy and whatever else `r` contains.
    No hypothesis about `$`/`{` inside `k` or about a trailing `$` of `a` is needed: the first
    `${` of `a ++ "${" ++ …` is at `a.length` as soon as `a` itself contains no `${`. -/
theorem self_ref_cycle_ctx (r : Vars) (pol : Policy) {a b a' b' k : Bytes} (h : SingleRef a k b) (h' : SingleRef a' k b')
    (hr : r.get k = some (a' ++ dollarBrace ++ k ++ closeBrace ++ b')) :
    expand r pol (a ++ dollarBrace ++ k ++ closeBrace ++ b) = .error (.cycle k) := by
  rw [expand_single r pol h, repl_some List.not_mem_nil hr, ref_shape]
  show (expandStep r pol (expandRec r pol r.length) _ [k]).map _ = _
  rw [step_single r pol _ [k] h', repl_seen List.mem_cons_self]
  rfl

/-- `K ↦ "${K}"` and the text `"${K}"`: `Cycle(K)`, for every key without `}` -/
theorem self_ref_cycle (r : Vars) (pol : Policy) (k : Bytes) (hk : (125 : UInt8) ∉ k)
    (hr : r.get k = some (dollarBrace ++ k ++ closeBrace)) :
    expand r pol (dollarBrace ++ k ++ closeBrace) = .error (.cycle k) := by
  simpa using self_ref_cycle_ctx r pol (a := []) (b := []) (a' := []) (b' := []) ⟨by decide, by decide, hk, by decide⟩
    ⟨by decide, by decide, hk, by decide⟩ (by simpa using hr)

-- non-vacuity: key "A${" (a key may contain `$`, `{`), r = [B ↦ "", A${ ↦ "${A${}"]
example : expand [([66], []), ([65, 36, 123], dollarBrace ++ [65, 36, 123] ++ closeBrace)] .empty
    (dollarBrace ++ [65, 36, 123] ++ closeBrace) = .error (.cycle [65, 36, 123]) :=
  self_ref_cycle _ _ _ (by decide) (by decide)

-- non-vacuity of the context version: text "x$${A}y", A ↦ "${A}$"
example : expand [([65], [] ++ dollarBrace ++ [65] ++ closeBrace ++ [36])] .ignore
    ([120, 36] ++ dollarBrace ++ [65] ++ closeBrace ++ [121]) = .error (.cycle [65]) :=
  self_ref_cycle_ctx _ _ (a' := []) (b' := [36]) ⟨by decide, by decide, by decide, by decide⟩
    ⟨by decide, by decide, by decide, by decide⟩ (by decide)

/-- exact substitution of a single reference: `a ++ "${k}" ++ b ↦ a ++ v ++ b`.
    Hypotheses: `a`, `b`, `v` contain no `${`; `a` does not end in a backslash (else the
    reference is an escape); `k` contains no `}` (else the key ends earlier). -/
theorem subst_exact (r : Vars) (pol : Policy) (a b k v : Bytes)
    (ha : findSub dollarBrace a = none) (hesc : a.getLast? ≠ some 92)
    (hb : findSub dollarBrace b = none) (hk : (125 : UInt8) ∉ k)
    (hv : findSub dollarBrace v = none) (hr : r.get k = some v) :
    expand r pol (a ++ dollarBrace ++ k ++ closeBrace ++ b) = .ok (a ++ v ++ b) := by
  rw [expand_single r pol ⟨ha, hesc, hk, hb⟩, repl_some List.not_mem_nil hr, rec_no_marker r pol _ v _ hv]
  rfl

-- non-vacuity: "é$" ++ "${A}" ++ "{z", A ↦ "\$"
example : expand [([66], [1]), ([65], [92, 36])] .error
    ([195, 169, 36] ++ dollarBrace ++ [65] ++ closeBrace ++ [123, 122])
    = .ok ([195, 169, 36] ++ [92, 36] ++ [123, 122]) :=
  subst_exact _ _ _ _ _ _ (by decide) (by decide) (by decide) (by decide) (by decide) (by decide)

/-- unknown name, policy `Ignore`: the text is returned unchanged -/
theorem unknown_ignore (r : Vars) (a b k : Bytes)
    (ha : findSub dollarBrace a = none) (hesc : a.getLast? ≠ some 92)
    (hb : findSub dollarBrace b = none) (hk : (125 : UInt8) ∉ k) (hr : r.get k = none) :
    expand r .ignore (a ++ dollarBrace ++ k ++ closeBrace ++ b)
      = .ok (a ++ dollarBrace ++ k ++ closeBrace ++ b) := by
  rw [expand_single r _ ⟨ha, hesc, hk, hb⟩, repl_none List.not_mem_nil hr]
  simp only [Except.map, List.append_assoc]

example : expand [([66], [1])] .ignore ([120] ++ dollarBrace ++ [65] ++ closeBrace ++ [121])
    = .ok ([120] ++ dollarBrace ++ [65] ++ closeBrace ++ [121]) :=
  unknown_ignore _ _ _ _ (by decide) (by decide) (by decide) (by decide) (by decide)

/-- unknown name, policy `Empty`: the reference is dropped -/
theorem unknown_empty (r : Vars) (a b k : Bytes)
    (ha : findSub dollarBrace a = none) (hesc : a.getLast? ≠ some 92)
    (hb : findSub dollarBrace b = none) (hk : (125 : UInt8) ∉ k) (hr : r.get k = none) :
    expand r .empty (a ++ dollarBrace ++ k ++ closeBrace ++ b) = .ok (a ++ b) := by
  rw [expand_single r _ ⟨ha, hesc, hk, hb⟩, repl_none List.not_mem_nil hr]
  simp only [Except.map, List.append_nil]

example : expand [([66], [1])] .empty ([120] ++ dollarBrace ++ [65] ++ closeBrace ++ [121])
    = .ok ([120] ++ [121]) :=
  unknown_empty _ _ _ _ (by decide) (by decide) (by decide) (by decide) (by decide)

/-- unknown name, policy `Error`: `Missing(k)` -/
theorem unknown_error (r : Vars) (a b k : Bytes)
    (ha : findSub dollarBrace a = none) (hesc : a.getLast? ≠ some 92)
    (hb : findSub dollarBrace b = none) (hk : (125 : UInt8) ∉ k) (hr : r.get k = none) :
    expand r .error (a ++ dollarBrace ++ k ++ closeBrace ++ b) = .error (.missing k) := by
  rw [expand_single r _ ⟨ha, hesc, hk, hb⟩, repl_none List.not_mem_nil hr]
  rfl

example : expand [([66], [1])] .error ([120] ++ dollarBrace ++ [65] ++ closeBrace ++ [121])
    = .error (.missing [65]) :=
  unknown_error _ _ _ _ (by decide) (by decide) (by decide) (by decide) (by decide)

-- the hypothesis on `a` is needed: "\${A}" is an escape, not a reference
example : expand [([65], [120])] .error ([92] ++ dollarBrace ++ [65] ++ closeBrace) ≠ .ok ([92] ++ [120]) := by
  decide +kernel

end Laze.C13
