import LazeModel.Lemmas.Select
/-! C08, local mode: the cache of a run in a start directory records the names of the binaries DEFINED in that directory
    (`known_apps`) and serves a later `--apps as` whose names are all among them. That answer is the one a cold run gives only if the
    cold run accepts such a list. On the code as it was it did not: a name defined in the start directory and ALSO in another
    directory (another context) made the cold run fail ("not defined in the current directory") while the cache served it. After the
    repair the cold run succeeds on every list the cache serves (the converse is not stated), and selects the start directory's
    binaries of those names. -/
namespace Laze.C08
open Laze

/-- what `Generator::execute` records as `known_apps` in local mode: the names of the binaries of the start directory -/
def knownAppsLocal (b : Bag) (dir : String) : List String := (b.bins.filter (fun m => m.relpath == dir)).map (·.name)

/-- **C08 (local apps)** a list of app names that the cache of a local run would serve (every name among `known_apps`) is accepted by
    a cold run in that directory -/
theorem local_served_list_is_accepted_cold (b : Bag) (as : List String) (dir : String)
    (hknown : ∀ a ∈ as, a ∈ knownAppsLocal b dir) :
    selectedBins b (.some as) (.local dir) = .ok ((b.bins.filter (fun m => as.contains m.name)).filter (fun m => m.relpath == dir)) := by
  have hk : ∀ a ∈ as, ∃ m ∈ b.bins, m.relpath = dir ∧ m.name = a := by
    intro a ha
    obtain ⟨m, hm, hn⟩ := List.mem_map.1 (hknown a ha)
    obtain ⟨hm1, hm2⟩ := List.mem_filter.1 hm
    exact ⟨m, hm1, eq_of_beq hm2, hn⟩
  refine selectedBins_ok.2 ⟨List.any_eq_false.2 fun a ha => ?_, List.any_eq_false.2 fun m hm => ?_, rfl⟩
  · -- every listed name is the name of a binary
    obtain ⟨m, hm, _, hn⟩ := hk a ha
    rw [Bool.not_eq_true', Bool.not_eq_false]
    exact List.any_eq_true.2 ⟨m, hm, beq_iff_eq.2 hn⟩
  · -- every selected binary has a selected namesake in `dir`
    have hsel := (List.mem_filter.1 hm).2
    obtain ⟨m', hm', hd, hn⟩ := hk m.name (List.contains_iff_mem.1 hsel)
    have hany : (b.bins.filter fun m => as.contains m.name).any (fun m' => m'.relpath == dir && m'.name == m.name) = true :=
      List.any_eq_true.2 ⟨m', List.mem_filter.2 ⟨hm', hn ▸ hsel⟩, by rw [hd, hn, beq_self_eq_true, beq_self_eq_true]; rfl⟩
    rw [hany, Bool.not_true, Bool.and_false]
    exact Bool.false_ne_true

/-- non-vacuity / the defect as it was: app `x` in the start directory and in `sub`; `--apps x` in the start directory selects the
    start directory's `x` -/
private def mx (ctx rel : String) : Module := { name := "x", contextName := ctx, isBinary := true, relpath := rel }
private def bag2 : Bag := { contexts := [{ name := "default", parent := none, modules := [mx "default" ""] }, { name := "other", parent := some "default", modules := [mx "other" "sub"] }] }
example : (selectedBins bag2 (.some ["x"]) (.local "")).toOption.map (·.map (·.relpath)) = some [""] := by decide +kernel
example : knownAppsLocal bag2 "" = ["x"] := by decide +kernel

end Laze.C08
