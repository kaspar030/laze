import LazeModel.Theorems.C18
/-! # C18 — `--compile-commands`

`laze build -c` runs ninja's `compdb` tool on the generated file right after generation. Modelled as a prefix of the spawn list
(`runBuildCC`); everything `C18.lean` proves about `runBuild` carries over to what follows the prefix. Observation (as coded, not a
defect of the property as we read it): with `-G -c` laze does start ninja — for the `compdb` *query*, which builds nothing. -/
namespace Laze.C18c
open Laze

/-- without the flag nothing changes -/
theorem cc_off (st : Settings) (a : Args) (fl : Flags) (builds : List BuildInfo) (task) (ninjaRc : Nat) (cmdFails : String → Bool)
    (h : fl.compileCommands = false) :
    runBuildCC st a fl builds task ninjaRc cmdFails = runBuild st a fl builds task ninjaRc cmdFails := by
  simp [runBuildCC, compdbSpawns, h]

/-- with the flag: first the compdb tool on the SAME file every other invocation uses, then exactly what the run does without it;
    the exit status is that of the run without the flag -/
theorem cc_on (st : Settings) (a : Args) (fl : Flags) (builds : List BuildInfo) (task) (ninjaRc : Nat) (cmdFails : String → Bool)
    (h : fl.compileCommands = true) :
    runBuildCC st a fl builds task ninjaRc cmdFails =
      (.ninja ["-f", ninjaFile st a.mode, "-t", "compdb"] :: (runBuild st a fl builds task ninjaRc cmdFails).1,
       (runBuild st a fl builds task ninjaRc cmdFails).2) := by
  simp [runBuildCC, compdbSpawns, h]

/-- the compdb call is a tool call on the generated file: `-f <file> -t compdb`, no targets, no `-j`/`-k` -/
theorem compdb_is_ninjaArgv (st : Settings) (a : Args) :
    ["-f", ninjaFile st a.mode, "-t", "compdb"] = ninjaArgv (ninjaFile st a.mode) false none none (some ["-t", "compdb"]) := by
  simp [ninjaArgv]

/-- every ninja BUILD invocation of a `-c` run (every spawn after the compdb call) still satisfies the selection theorem -/
theorem targets_within_selection_cc {st : Settings} {a : Args} {fl : Flags} {builds : List BuildInfo} {ninjaRc : Nat}
    {cmdFails : String → Bool} {argv : List String}
    (h : Spawn.ninja argv ∈ (runBuildCC st a fl builds none ninjaRc cmdFails).1)
    (hne : argv ≠ ["-f", ninjaFile st a.mode, "-t", "compdb"]) :
    Spawn.ninja argv ∈ (runBuild st a fl builds none ninjaRc cmdFails).1 := by
  cases hc : fl.compileCommands with
  | false => rwa [cc_off st a fl builds none ninjaRc cmdFails hc] at h
  | true =>
    rw [cc_on st a fl builds none ninjaRc cmdFails hc, List.mem_cons] at h
    rcases h with h | h
    · exact absurd (Spawn.ninja.inj h) hne
    · exact h

/-- `-G -c`: the only process is the compdb query -/
theorem G_only_compdb (st : Settings) (a : Args) (fl : Flags) (builds : List BuildInfo) (ninjaRc : Nat) (cmdFails : String → Bool)
    (hG : fl.generateOnly = true) (hc : fl.compileCommands = true) :
    runBuildCC st a fl builds none ninjaRc cmdFails = ([.ninja ["-f", ninjaFile st a.mode, "-t", "compdb"]], 0) := by
  rw [cc_on st a fl builds none ninjaRc cmdFails hc, C18.no_ninja_with_G st a fl builds ninjaRc cmdFails hG]

example : runBuildCC {} { builders := .some ["b2"] } { compileCommands := true, jobs := some 2 } C18.exBuilds none 0 (fun _ => false) =
    ([.ninja ["-f", "build/build-global.ninja", "-t", "compdb"],
      .ninja ["-f", "build/build-global.ninja", "-j", "2", "-k", "1", "build/out/b2/app/app.elf"]], 0) := by decide +kernel

end Laze.C18c
