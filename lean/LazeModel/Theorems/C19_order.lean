import LazeModel.Lemmas.GenSpec
import LazeModel.Lemmas.BuildEnv
/-! C19, build dependencies and the build order: which modules `buildEnv` collects as build deps; the edges of the graph
    `buildGraph` builds, the depth-first search of `dependenciesOf` as a loop invariant, and what follows for
    `buildOrder` — every module once, every build dependency before its user, a cycle gives no order. -/
namespace Laze.C19
open Laze

/-! ## the build-dep modules collected by `buildEnv` -/

theorem isBuildDepOf_iff (m x : Module) :
    isBuildDepOf m x = true ↔
      x.isBuildDep = true ∧ ¬(x.name = m.name ∧ x.contextName = m.contextName) := by
  simp only [isBuildDepOf, Bool.and_eq_true, Bool.not_eq_true', ← Bool.not_eq_true, beq_iff_eq, and_comm]

theorem foldl_addBuildDep (m : Module) (deps : List Module) (bdeps : Option (List Name)) :
    (deps.foldl (fun bd dep => addBuildDep m dep bd) bdeps).getD [] =
      ((deps.filter (isBuildDepOf m)).map (·.name)).foldl setAdd (bdeps.getD []) := by
  induction deps generalizing bdeps with
  | nil => rfl
  | cons x xs ih =>
    rw [List.foldl_cons, ih, List.filter_cons]
    unfold addBuildDep
    split <;> rfl

theorem buildEnv_bdeps_eq {r : Resolved} {m : Module} {genv env : Env} {bdeps : Option (List Name)}
    (h : buildEnv r m genv = .ok (env, bdeps)) :
    bdeps.getD [] = dedup (((importedModules r m).filter (isBuildDepOf m)).map (·.name)) := by
  obtain ⟨_, _, ⟨⟩⟩ := buildEnv_ok h
  rw [foldl_addBuildDep]
  rfl

/-- the build-dep modules of `m` are exactly the imported modules marked `is_build_dep`,
    except `m` itself -/
theorem buildEnv_bdeps {r : Resolved} {m : Module} {genv env : Env} {bdeps : Option (List Name)}
    (h : buildEnv r m genv = .ok (env, bdeps)) (d : Name) :
    d ∈ bdeps.getD [] ↔
      ∃ x ∈ importedModules r m, x.name = d ∧ x.isBuildDep = true ∧
        ¬(x.name = m.name ∧ x.contextName = m.contextName) := by
  rw [buildEnv_bdeps_eq h, mem_dedup]
  simp only [List.mem_map, List.mem_filter, isBuildDepOf_iff]
  exact ⟨fun ⟨x, ⟨hx, hb⟩, hn⟩ => ⟨x, hx, hn, hb⟩, fun ⟨x, hx, hn, hb⟩ => ⟨x, ⟨hx, hb⟩, hn⟩⟩

theorem buildEnv_bdeps_nodup {r : Resolved} {m : Module} {genv env : Env} {bdeps : Option (List Name)}
    (h : buildEnv r m genv = .ok (env, bdeps)) : (bdeps.getD []).Nodup :=
  buildEnv_bdeps_eq h ▸ nodup_dedup _

example :
    let dl : Module := { name := "dl", contextName := "default", isBuildDep := true }
    let app : Module := { name := "app", contextName := "default", imports := [.hard "dl"] }
    let r : Resolved := { modules := [app, dl], providers := [] }
    (buildEnv r app []).toOption.map (·.2) = some (some ["dl"]) := by decide +kernel

/-! ## the build order is topological -/

/-- `x → d` is an edge of the graph -/
def Edge (g : DepGraph) (x d : Name) : Prop := d ∈ (g.deps x).getD []

theorem edge_empty (x d : Name) : ¬ Edge {} x d := by
  unfold Edge DepGraph.deps; simp

theorem DepGraph.deps_add (g : DepGraph) (n e x : Name) :
    (g.add n e).deps x = if x = n then some (addEntry ((g.deps n).getD []) e) else g.deps x :=
  C09.lk_upsert g.edges n x (fun o => addEntry (o.getD []) e)

theorem edge_add (g : DepGraph) (n e x d : Name) :
    Edge (g.add n e) x d ↔ Edge g x d ∨ (x = n ∧ d = e) := by
  unfold Edge
  rw [DepGraph.deps_add]
  by_cases hx : x = n
  · subst hx; simp [mem_addEntry]
  · simp [hx]

theorem edge_foldl_add (l : List Name) (g : DepGraph) (n x d : Name) :
    Edge (l.foldl (fun g d => g.add n d) g) x d ↔ Edge g x d ∨ (x = n ∧ d ∈ l) := by
  rw [foldl_or_iff (P := fun g => Edge g x d) (fun g e => edge_add g n e x d)]
  exact or_congr_right ⟨fun ⟨_, ha, hx, hd⟩ => ⟨hx, hd ▸ ha⟩, fun ⟨hx, hd⟩ => ⟨d, hd, hx, rfl⟩⟩

/-- the edges one module contributes -/
def ModEdge (mb : Module × Option (List Name)) (x d : Name) : Prop :=
  (x = mb.1.name ∧ d ∈ mb.2.getD []) ∨ (x = rootNode ∧ d = mb.1.name) ∨
    (mb.1.isGlobalBuildDep = false ∧ x = mb.1.name ∧ d = globalNode)

theorem edge_graphAddModule (g : DepGraph) (mb : Module × Option (List Name)) (x d : Name) :
    Edge (graphAddModule g mb) x d ↔ Edge g x d ∨ ModEdge mb x d := by
  unfold graphAddModule graphAddModuleEdges ModEdge
  cases mb.1.isGlobalBuildDep
  · simp only [Bool.not_false, if_true, edge_add, edge_foldl_add, true_and, or_assoc]
  · simp only [Bool.not_true, Bool.false_eq_true, if_false, edge_add, edge_foldl_add, Bool.true_eq_false, false_and,
      or_false, or_assoc]

theorem edge_foldl_graphAddModule (mods : List (Module × Option (List Name))) (g : DepGraph) (x d : Name) :
    Edge (mods.foldl graphAddModule g) x d ↔ Edge g x d ∨ ∃ mb ∈ mods, ModEdge mb x d :=
  foldl_or_iff (P := fun g => Edge g x d) (fun g mb => edge_graphAddModule g mb x d) mods g

/-- the edges of the build-order graph: `_global_build_deps →` every global build dep, and for every
    module: `module →` its build deps, `root → module`, `module → _global_build_deps` unless it is a
    global build dep itself -/
theorem edge_buildGraph {mods : List (Module × Option (List Name))} {x d : Name} :
    Edge (buildGraph mods) x d ↔
      (x = globalNode ∧ ∃ mb ∈ mods, mb.1.isGlobalBuildDep = true ∧ d = mb.1.name) ∨
        ∃ mb ∈ mods, ModEdge mb x d := by
  unfold buildGraph
  rw [edge_foldl_graphAddModule]
  refine or_congr_left ?_
  rw [show List.foldl graphAddGlobal = List.foldl (fun g d => g.add globalNode d) from rfl, edge_foldl_add]
  simp only [edge_empty, false_or, List.mem_map, List.mem_filter]
  exact and_congr_right fun _ =>
    ⟨fun ⟨mb, ⟨hmb, hg⟩, e⟩ => ⟨mb, hmb, hg, e.symm⟩, fun ⟨mb, hmb, hg, e⟩ => ⟨mb, ⟨hmb, hg⟩, e.symm⟩⟩

/-! ### the DFS (`solvent`) -/

theorem nextDependency_spec {g : DepGraph} {sat : List Name} {fuel : Nat} {path : List Name} {pos n : Name}
    (h : nextDependency g sat fuel path pos = some n) :
    (pos ∉ sat → n ∉ sat) ∧ (∀ d, Edge g n d → d ∈ sat) ∧ (n = pos ∨ ∃ p, Edge g p n) := by
  fun_induction nextDependency g sat fuel path pos with
  | case1 => cases h
  | case2 => cases h
  | case3 _ _ pos _ hdeps =>
    cases h
    refine ⟨id, fun d hd => ?_, .inl rfl⟩
    unfold Edge at hd
    rw [hdeps] at hd
    cases hd
  | case4 _ _ pos _ deplist hdeps n' hn' ih =>
    obtain ⟨h1, h2, h3⟩ := ih h
    have hedge : Edge g pos n' := by unfold Edge; rw [hdeps]; exact List.mem_of_find?_eq_some hn'
    exact ⟨fun _ => h1 (by simpa using List.find?_some hn'), h2, .inr (h3.elim (fun e => ⟨pos, e ▸ hedge⟩) id)⟩
  | case5 _ _ pos _ deplist hdeps hnone =>
    cases h
    refine ⟨id, fun d hd => ?_, .inl rfl⟩
    unfold Edge at hd
    rw [hdeps] at hd
    simpa using List.find?_eq_none.1 hnone d hd

/-- every element has all its dependencies strictly earlier in the list -/
def DepsBefore (g : DepGraph) (l : List Name) : Prop :=
  ∀ pre n post, l = pre ++ n :: post → ∀ d, Edge g n d → d ∈ pre

theorem DepsBefore.snoc {g : DepGraph} {l : List Name} {n : Name} (hl : DepsBefore g l)
    (hn : ∀ d, Edge g n d → d ∈ l) : DepsBefore g (l ++ [n]) := by
  intro pre x post heq d hd
  have hp : pre ++ [x] <+: l ++ [n] := ⟨post, by rw [heq, List.append_assoc]; rfl⟩
  rcases List.prefix_concat_iff.1 hp with he | ⟨t, ht⟩
  · obtain ⟨rfl, rfl⟩ := List.append_singleton_inj.1 he
    exact hn d hd
  · exact hl pre x t (by rw [← ht, List.append_assoc]; rfl) d hd

/-- the invariant of the loop of `dependencies_of(target)`; at the end the target is emitted -/
theorem dependenciesOf_inv {g : DepGraph} {target : Name} {size fuel : Nat} {sat out : List Name}
    (h : dependenciesOf g target size fuel sat = some out)
    (hnd : sat.Nodup) (hdb : DepsBefore g sat) (hr : ∀ n ∈ sat, n = target ∨ ∃ p, Edge g p n) :
    out.Nodup ∧ DepsBefore g out ∧ target ∈ out ∧ ∀ n ∈ out, n = target ∨ ∃ p, Edge g p n := by
  fun_induction dependenciesOf g target size fuel sat with
  | case1 => cases h
  | case2 _ sat hc => cases h; exact ⟨hnd, hdb, by simpa using hc, hr⟩
  | case3 => cases h
  | case4 _ sat hc n hn ih =>
    obtain ⟨h1, h2, h3⟩ := nextDependency_spec hn
    refine ih h (List.nodup_snoc.2 ⟨hnd, h1 (by simpa using hc)⟩) (hdb.snoc h2) fun x hx => ?_
    rcases List.mem_append.1 hx with hx | hx
    · exact hr x hx
    · exact List.mem_singleton.1 hx ▸ h3

/-- the complete emission order (from nothing satisfied): duplicate-free, topologically sorted,
    contains the target, and only nodes reachable by an edge (or the target) -/
theorem dependenciesOf_topo {g : DepGraph} {target : Name} {size fuel : Nat} {out : List Name}
    (h : dependenciesOf g target size fuel [] = some out) :
    out.Nodup ∧ DepsBefore g out ∧ target ∈ out ∧ ∀ n ∈ out, n = target ∨ ∃ p, Edge g p n :=
  dependenciesOf_inv h List.nodup_nil (fun _ _ _ heq => absurd heq (by simp))
    (fun _ hn => absurd hn List.not_mem_nil)

/-- `d` occurs strictly before `x` in `l` -/
def Before (l : List Name) (d x : Name) : Prop := ∃ pre post, l = pre ++ x :: post ∧ d ∈ pre

theorem Before.mem_left {l : List Name} {d x : Name} (h : Before l d x) : d ∈ l := by
  obtain ⟨pre, post, rfl, hd⟩ := h
  exact List.mem_append_left _ hd

theorem Before.mem_right {l : List Name} {d x : Name} (h : Before l d x) : x ∈ l := by
  obtain ⟨pre, post, rfl, _⟩ := h
  simp

theorem before_of_edge {g : DepGraph} {l : List Name} (hl : DepsBefore g l) {x d : Name}
    (hx : x ∈ l) (he : Edge g x d) : Before l d x := by
  obtain ⟨s, t, rfl⟩ := List.append_of_mem hx
  exact ⟨s, t, rfl, hl s x t rfl d he⟩

theorem Before.filter {l : List Name} {d x : Name} (p : Name → Bool) (h : Before l d x)
    (hd : p d = true) (hx : p x = true) : Before (l.filter p) d x := by
  obtain ⟨pre, post, rfl, hm⟩ := h
  refine ⟨pre.filter p, post.filter p, ?_, List.mem_filter.2 ⟨hm, hd⟩⟩
  rw [List.filter_append, List.filter_cons, if_pos hx]

theorem Before.irrefl {l : List Name} (hnd : l.Nodup) {a : Name} : ¬ Before l a a := by
  rintro ⟨p, q, rfl, ha⟩
  exact (List.nodup_append.1 hnd).2.2 a ha a List.mem_cons_self rfl

theorem Before.trans {l : List Name} (hnd : l.Nodup) {a b c : Name} (h1 : Before l a b) (h2 : Before l b c) :
    Before l a c := by
  obtain ⟨p1, q1, rfl, ha⟩ := h1
  obtain ⟨p2, q2, e, hb⟩ := h2
  refine ⟨p2, q2, e, ?_⟩
  -- one of `p1`, `p2` is a prefix of the other; were it `p2`, `b` would occur in `p2` and again after it
  rcases List.append_eq_append_iff.1 e with ⟨s, rfl, _⟩ | ⟨s, rfl, _⟩
  · exact List.mem_append_left _ ha
  · rw [List.append_assoc] at hnd
    exact absurd rfl ((List.nodup_append.1 hnd).2.2 b hb b (List.mem_append_right _ List.mem_cons_self))

/-! ### `buildOrder` -/

/-- a build order is the real nodes of an emission order (`dependenciesOf_topo`) that contains every module: each is the
    target of an edge from the root -/
theorem buildOrder_eq {mods : List (Module × Option (List Name))} {order : List Name}
    (h : buildOrder mods = some order) :
    ∃ out, order = out.filter isRealNode ∧ out.Nodup ∧ DepsBefore (buildGraph mods) out ∧ rootNode ∈ out ∧
      (∀ n ∈ out, n = rootNode ∨ ∃ p, Edge (buildGraph mods) p n) ∧ ∀ mb ∈ mods, mb.1.name ∈ out := by
  obtain ⟨out, ho, rfl⟩ := Option.map_eq_some_iff.1 h
  obtain ⟨hnd, hdb, hroot, hreach⟩ := dependenciesOf_topo ho
  exact ⟨out, rfl, hnd, hdb, hroot, hreach, fun mb hmb => (before_of_edge hdb hroot
    (edge_buildGraph.2 (.inr ⟨mb, hmb, .inr (.inl ⟨rfl, rfl⟩)⟩))).mem_left⟩

theorem isRealNode_iff {n : Name} : isRealNode n = true ↔ n ≠ rootNode ∧ n ≠ globalNode := by
  unfold isRealNode
  rw [Bool.and_eq_true, bne_iff_ne, bne_iff_ne]

/-- `a` has build dep `b` (according to the module list handed to `buildOrder`) -/
def BDep (mods : List (Module × Option (List Name))) (a b : Name) : Prop :=
  ∃ mb ∈ mods, mb.1.name = a ∧ b ∈ mb.2.getD []

theorem edge_of_bdep {mods : List (Module × Option (List Name))} {a b : Name} (h : BDep mods a b) :
    Edge (buildGraph mods) a b := by
  obtain ⟨mb, hmb, rfl, hd⟩ := h
  exact edge_buildGraph.2 (.inr ⟨mb, hmb, .inl ⟨rfl, hd⟩⟩)

theorem buildOrder_nodup_mem {mods : List (Module × Option (List Name))} {order : List Name}
    (h : buildOrder mods = some order) :
    order.Nodup ∧ ∀ n, n ∈ order ↔
      isRealNode n = true ∧ (n ∈ mods.map (·.1.name) ∨ ∃ mb ∈ mods, n ∈ mb.2.getD []) := by
  obtain ⟨out, rfl, hnd, hdb, _, hreach, hout⟩ := buildOrder_eq h
  refine ⟨hnd.sublist List.filter_sublist, fun n => ?_⟩
  rw [List.mem_filter, and_comm]
  refine and_congr_right fun hreal => ⟨fun hn => ?_, ?_⟩
  · -- a node of the emission order is the root or the target of an edge; the real ones among these
    obtain ⟨hnr, hng⟩ := isRealNode_iff.1 hreal
    rcases hreach n hn with rfl | ⟨p, hp⟩
    · exact absurd rfl hnr
    · rcases edge_buildGraph.1 hp with
        ⟨_, mb, hmb, _, rfl⟩ | ⟨mb, hmb, ⟨_, hd⟩ | ⟨_, rfl⟩ | ⟨_, _, rfl⟩⟩
      · exact .inl (List.mem_map_of_mem hmb)
      · exact .inr ⟨mb, hmb, hd⟩
      · exact .inl (List.mem_map_of_mem hmb)
      · exact absurd rfl hng
  · rintro (hn | ⟨mb, hmb, hd⟩)
    · obtain ⟨mb, hmb, rfl⟩ := List.mem_map.1 hn
      exact hout mb hmb
    · exact (before_of_edge hdb (hout mb hmb) (edge_of_bdep ⟨mb, hmb, rfl, hd⟩)).mem_left

/-- the build order is a permutation of the module names (distinct, none of them the root or
    `_global_build_deps` pseudo node, every build dep a module) -/
theorem buildOrder_perm {mods : List (Module × Option (List Name))} {order : List Name}
    (h : buildOrder mods = some order)
    (hnd : (mods.map (·.1.name)).Nodup)
    (hreal : ∀ mb ∈ mods, isRealNode mb.1.name = true)
    (hclosed : ∀ mb ∈ mods, ∀ d ∈ mb.2.getD [], d ∈ mods.map (·.1.name)) :
    order.Perm (mods.map (·.1.name)) := by
  obtain ⟨hnd', hmem⟩ := buildOrder_nodup_mem h
  rw [List.perm_ext_iff_of_nodup hnd' hnd]
  intro n
  rw [hmem]
  constructor
  · rintro ⟨_, hn | ⟨mb, hmb, hd⟩⟩
    · exact hn
    · exact hclosed mb hmb n hd
  · intro hn
    obtain ⟨mb, hmb, rfl⟩ := List.mem_map.1 hn
    exact ⟨hreal mb hmb, Or.inl hn⟩

/-- every build dep of a module comes before the module in the build order -/
theorem buildOrder_dep_before {mods : List (Module × Option (List Name))} {order : List Name}
    (h : buildOrder mods = some order) {mb : Module × Option (List Name)} (hmb : mb ∈ mods)
    {d : Name} (hd : d ∈ mb.2.getD []) (hrm : isRealNode mb.1.name = true) (hrd : isRealNode d = true) :
    Before order d mb.1.name := by
  obtain ⟨out, rfl, _, hdb, _, _, hout⟩ := buildOrder_eq h
  exact (before_of_edge hdb (hout mb hmb) (edge_of_bdep ⟨mb, hmb, rfl, hd⟩)).filter _ hrd hrm

/-- every global build dep comes before every module that is not a global build dep -/
theorem buildOrder_global_before {mods : List (Module × Option (List Name))} {order : List Name}
    (h : buildOrder mods = some order) {gb mb : Module × Option (List Name)}
    (hgb : gb ∈ mods) (hg : gb.1.isGlobalBuildDep = true)
    (hmb : mb ∈ mods) (hm : mb.1.isGlobalBuildDep = false)
    (hrg : isRealNode gb.1.name = true) (hrm : isRealNode mb.1.name = true) :
    Before order gb.1.name mb.1.name := by
  obtain ⟨out, rfl, hnd, hdb, _, _, hout⟩ := buildOrder_eq h
  -- `mb → _global_build_deps → gb`
  have he1 : Edge (buildGraph mods) mb.1.name globalNode :=
    edge_buildGraph.2 (.inr ⟨mb, hmb, .inr (.inr ⟨hm, rfl, rfl⟩)⟩)
  have he2 : Edge (buildGraph mods) globalNode gb.1.name :=
    edge_buildGraph.2 (.inl ⟨rfl, gb, hgb, hg, rfl⟩)
  have b1 := before_of_edge hdb (hout mb hmb) he1
  exact ((before_of_edge hdb b1.mem_left he2).trans hnd b1).filter _ hrg hrm

/-! Remarks on the hypotheses (checked on the model):
* `isRealNode`: the pseudo nodes are ordinary strings, so a module that is literally called
  `_global_build_deps` (or has the empty name) collides with them: it gets an edge to itself
  (`m → _global_build_deps`, resp. `root → m`), which is reported as a build-dependency cycle and the
  build is dropped (the Rust code uses the same two strings).  (FINDING C19-F3, corner case.)
* `hclosed`: `buildOrder` on a list whose build deps are not all module names also emits those names;
  moreover the fuel of the model (at most `mods.length + 3` emissions) is only adequate for closed lists, where
  the graph has at most `mods.length + 2` nodes: on a non-closed list `none` can be fuel exhaustion
  rather than a cycle.  Lists produced by `moduleEnvs` are closed (`moduleEnvs_closed`: build deps are
  selected modules). -/

example : buildOrder [(({ name := "_global_build_deps", contextName := "c" } : Module), none),
                      (({ name := "a", contextName := "c" } : Module), none)] = none := by decide +kernel

example : buildOrder [(({ name := "a", contextName := "c" } : Module), some ["x", "y", "z"])] = none := by decide +kernel

/-- a module of a list that has a build order is not named like one of the two internal nodes (`""`,
    `_global_build_deps`): it would have an edge to itself, and a node of the emission order has none -/
theorem buildOrder_real {mods : List (Module × Option (List Name))} {order : List Name}
    (h : buildOrder mods = some order) {mb : Module × Option (List Name)} (hmb : mb ∈ mods) :
    isRealNode mb.1.name = true := by
  obtain ⟨out, _, hnd, hdb, hroot, _, hout⟩ := buildOrder_eq h
  have hirr : ∀ {n}, n ∈ out → ¬ Edge (buildGraph mods) n n :=
    fun hn he => Before.irrefl hnd (before_of_edge hdb hn he)
  refine isRealNode_iff.2 ⟨fun hr => hirr hroot ?_, fun hg => hirr (hout mb hmb) ?_⟩
  · exact edge_buildGraph.2 (.inr ⟨mb, hmb, .inr (.inl ⟨rfl, hr.symm⟩)⟩)
  · by_cases hgb : mb.1.isGlobalBuildDep = true
    · exact edge_buildGraph.2 (.inl ⟨hg, mb, hmb, hgb, rfl⟩)
    · exact edge_buildGraph.2
        (.inr ⟨mb, hmb, .inr (.inr ⟨by simpa using hgb, rfl, hg⟩)⟩)


/-! ### a build-dependency cycle drops the build -/

/-- a path in a relation whose steps are edges leaving nodes of a topologically sorted list runs backwards through
    the list -/
theorem before_of_transGen {g : DepGraph} {l : List Name} (hnd : l.Nodup) (hl : DepsBefore g l)
    {r : Name → Name → Prop} (hr : ∀ {a b}, r a b → a ∈ l ∧ Edge g a b) {x y : Name}
    (h : Relation.TransGen r x y) : Before l y x := by
  induction h with
  | single he => exact before_of_edge hl (hr he).1 (hr he).2
  | tail _ he ih => exact (before_of_edge hl (hr he).1 (hr he).2).trans hnd ih

/-- a cycle among build dependencies (of whatever length) ⇒ no build order -/
theorem bdep_cycle_no_order {mods : List (Module × Option (List Name))} {x : Name}
    (h : Relation.TransGen (BDep mods) x x) : buildOrder mods = none := by
  cases hbo : buildOrder mods with
  | none => rfl
  | some order =>
    obtain ⟨out, _, hnd, hdb, _, _, hout⟩ := buildOrder_eq hbo
    have hr : ∀ {a b}, BDep mods a b → a ∈ out ∧ Edge (buildGraph mods) a b := fun hab =>
      ⟨let ⟨_, hmb, e, _⟩ := hab; e ▸ hout _ hmb, edge_of_bdep hab⟩
    exact absurd (before_of_transGen hnd hdb hr h) (Before.irrefl hnd)

/-- no build order ⇒ the build is dropped (not an error, not a build) -/
theorem dep_cycle_drops {ev st b builder app r rules opts gflat outfile} {menvs : List ModEnv}
    (h : buildOrder (menvs.map ModEnv.deps) = none) :
    configureOrdered ev st b builder app r rules opts gflat outfile menvs = .ok (.noBuild .depCycle) := by
  unfold configureOrdered
  rw [h]

/-- and conversely `depCycle` is only reported when there is no build order -/
theorem depCycle_only_if {ev st b builder app r rules opts gflat outfile} {menvs : List ModEnv}
    (h : configureOrdered ev st b builder app r rules opts gflat outfile menvs = .ok (.noBuild .depCycle)) :
    buildOrder (menvs.map ModEnv.deps) = none := by
  rcases configureOrdered_ok h with ⟨h', _⟩ | ⟨_, _, _, _, _, _, _, h'⟩
  · exact h'
  · cases h'

/-- a cycle of build dependencies, of any length, drops the build. One direction only: `buildOrder` can also return `none` without
    such a cycle (a module named like an internal node, a list that is not closed: the remarks above) -/
theorem bdep_cycle_drops {ev st b builder app r rules opts gflat outfile} {menvs : List ModEnv} {x : Name}
    (h : Relation.TransGen (BDep (menvs.map ModEnv.deps)) x x) :
    configureOrdered ev st b builder app r rules opts gflat outfile menvs = .ok (.noBuild .depCycle) :=
  dep_cycle_drops (bdep_cycle_no_order h)

/-- a 2-cycle among build dependencies: no build order -/
example :
    buildOrder [({ name := "a", contextName := "c" }, some ["b"]),
                ({ name := "b", contextName := "c" }, some ["a"])] = none := by decide +kernel

/-- without the cycle there is one, dependencies first -/
example :
    buildOrder [({ name := "a", contextName := "c" }, some ["b"]),
                ({ name := "b", contextName := "c" }, none)] = some ["b", "a"] := by decide +kernel

/-! ## the list handed to `buildOrder` by `configureWithEnv` -/

theorem moduleEnvs_bdeps {r : Resolved} {genv : Env} {menvs : List ModEnv}
    (h : moduleEnvs r genv r.modules = .ok menvs) {me : ModEnv} (hme : me ∈ menvs) (d : Name) :
    d ∈ me.2.2.getD [] ↔
      ∃ x ∈ importedModules r me.1, x.name = d ∧ x.isBuildDep = true ∧
        ¬(x.name = me.1.name ∧ x.contextName = me.1.contextName) :=
  buildEnv_bdeps ((moduleEnvs_ok h).2 me hme) d

theorem importedModules_sub {r : Resolved} {x y : Module} (h : y ∈ importedModules r x) : y ∈ r.modules := by
  unfold importedModules at h
  obtain ⟨k, _, hk⟩ := List.mem_filterMap.1 h
  exact List.mem_of_find?_eq_some hk

theorem moduleEnvs_names {r : Resolved} {genv : Env} {menvs : List ModEnv}
    (h : moduleEnvs r genv r.modules = .ok menvs) :
    (menvs.map ModEnv.deps).map (·.1.name) = r.modules.map (·.name) := by
  rw [← (moduleEnvs_ok h).1, List.map_map, List.map_map]
  rfl

/-- the list handed to `buildOrder` is closed: every build dep is the name of a selected module
    (the hypothesis `hclosed` of `buildOrder_perm`) -/
theorem moduleEnvs_closed {r : Resolved} {genv : Env} {menvs : List ModEnv}
    (h : moduleEnvs r genv r.modules = .ok menvs) :
    ∀ mb ∈ menvs.map ModEnv.deps, ∀ d ∈ mb.2.getD [], d ∈ (menvs.map ModEnv.deps).map (·.1.name) := by
  intro mb hmb d hd
  obtain ⟨me, hme, rfl⟩ := List.mem_map.1 hmb
  obtain ⟨y, hy, rfl, _⟩ := (moduleEnvs_bdeps h hme d).1 hd
  rw [moduleEnvs_names h]
  exact List.mem_map.2 ⟨y, importedModules_sub hy, rfl⟩

end Laze.C19
