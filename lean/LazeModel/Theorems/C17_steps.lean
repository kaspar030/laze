import LazeModel.Model.Loader
/-! C17, the steps of `convertStatic` (`Model/Loader.lean`) one by one: each `withX` as a record update (`withX_eq`), and what it does
    to each of the 25 fields of `Module`. `C17.lean` composes the record updates (`convertStatic_eq`); the field-wise lines are the
    same facts read one field at a time, for whoever needs a single field of a single step. -/
namespace Laze.C17
open Laze

/-- `a` followed by `b`; absent only when both are -/
def addOpt (a : Option (List String)) : Option (List String) → Option (List String)
  | some c => some (a.getD [] ++ c)
  | none => a

theorem addOpt_getD (a b : Option (List String)) : (addOpt a b).getD [] = a.getD [] ++ b.getD [] := by
  cases a <;> cases b <;> simp [addOpt]

theorem addOpt_isSome (a b : Option (List String)) : (addOpt a b).isSome = (a.isSome || b.isSome) := by
  cases a <;> cases b <;> rfl

theorem addOpt_none_left (b : Option (List String)) : addOpt none b = b := by
  cases b <;> rfl

theorem withConflicts_eq (y : YModule) (m : Module) :
    withConflicts y m = { m with conflicts := addOpt m.conflicts y.conflicts } := by
  unfold withConflicts; cases y.conflicts <;> rfl

theorem withProvides_eq (y : YModule) (m : Module) :
    withProvides y m = { m with provides := addOpt m.provides y.provides } := by
  unfold withProvides; cases y.provides <;> rfl

theorem withProvidesUnique_eq (y : YModule) (m : Module) :
    withProvidesUnique y m = { m with conflicts := addOpt m.conflicts y.providesUnique,
                                      provides := addOpt m.provides y.providesUnique } := by
  unfold withProvidesUnique; cases y.providesUnique <;> rfl

theorem withNotifyAll_eq (y : YModule) (m : Module) :
    withNotifyAll y m = { m with notifyAll := y.notifyAll || m.notifyAll } := by
  unfold withNotifyAll; cases y.notifyAll <;> rfl

/-- the plain (unguarded) sources of the YAML module -/
def ownSources (y : YModule) : List String := (y.sources.getD []).filterMap plainSource

def sourcesOptionalOf (y : YModule) (m : Module) : Option (List (String × List String)) :=
  match y.sources with
  | none => m.sourcesOptional
  | some l => (withOptionalSources (optionalSources l) m).sourcesOptional

theorem withSources_eq (y : YModule) (m : Module) :
    withSources y m = { m with sources := m.sources ++ ownSources y,
                               sourcesOptional := sourcesOptionalOf y m } := by
  unfold withSources ownSources sourcesOptionalOf
  cases y.sources with
  | none => simp
  | some l =>
    simp only [Option.getD_some]
    unfold withOptionalSources
    split <;> rfl

def buildDepFilesOf (y : YModule) (bd rp : String) (m : Module) : Option (List String) :=
  match y.download with
  | some d => some (setInsert (m.buildDepFiles.getD []) (d.tagfile (y.srcdir.getD (d.srcdir bd rp m.name))))
  | none => m.buildDepFiles

theorem withDownload_eq (y : YModule) (bd rp : String) (m : Module) :
    withDownload y bd rp m = { m with download := y.download, isBuildDep := y.download.isSome || m.isBuildDep,
                                      buildDepFiles := buildDepFilesOf y bd rp m } := by
  unfold withDownload buildDepFilesOf; cases y.download <;> rfl

/-- the module the conversion starts from -/
abbrev base (y : YModule) (c : Option String) (f : String) (d : Option Module) : Module :=
  moduleBase (moduleNameOf y f) c d

section Steps
/-! Every step of `convertStatic`, field by field, one line each: what the step makes of the field of the
    module it is given. A step that is a plain record update is unfolded; one defined by a `match` or `if`
    goes through its record equation above (`withConflicts_eq`, …). `rfl` alone is up to ten times dearer:
    it first compares the two records field by field. Where the new value is itself a defined term
    (`relpathOf f`, `Env.insert …`), `rw` closes the goal without unfolding that term. -/
theorem initModule_name (y : YModule) (c : Option String) (isB : Bool) (f : String) (d : Option Module) : (initModule y c isB f d).name = (base y c f d).name := by unfold initModule; rfl
theorem initModule_contextName (y : YModule) (c : Option String) (isB : Bool) (f : String) (d : Option Module) : (initModule y c isB f d).contextName = (base y c f d).contextName := by unfold initModule; rfl
theorem initModule_selects (y : YModule) (c : Option String) (isB : Bool) (f : String) (d : Option Module) : (initModule y c isB f d).selects = (base y c f d).selects := by unfold initModule; rfl
theorem initModule_imports (y : YModule) (c : Option String) (isB : Bool) (f : String) (d : Option Module) : (initModule y c isB f d).imports = (base y c f d).imports := by unfold initModule; rfl
theorem initModule_provides (y : YModule) (c : Option String) (isB : Bool) (f : String) (d : Option Module) : (initModule y c isB f d).provides = (base y c f d).provides := by unfold initModule; rfl
theorem initModule_conflicts (y : YModule) (c : Option String) (isB : Bool) (f : String) (d : Option Module) : (initModule y c isB f d).conflicts = (base y c f d).conflicts := by unfold initModule; rfl
theorem initModule_notifyAll (y : YModule) (c : Option String) (isB : Bool) (f : String) (d : Option Module) : (initModule y c isB f d).notifyAll = (base y c f d).notifyAll := by unfold initModule; rfl
theorem initModule_blocklist (y : YModule) (c : Option String) (isB : Bool) (f : String) (d : Option Module) : (initModule y c isB f d).blocklist = (base y c f d).blocklist := by unfold initModule; rfl
theorem initModule_allowlist (y : YModule) (c : Option String) (isB : Bool) (f : String) (d : Option Module) : (initModule y c isB f d).allowlist = (base y c f d).allowlist := by unfold initModule; rfl
theorem initModule_sources (y : YModule) (c : Option String) (isB : Bool) (f : String) (d : Option Module) : (initModule y c isB f d).sources = (base y c f d).sources := by unfold initModule; rfl
theorem initModule_sourcesOptional (y : YModule) (c : Option String) (isB : Bool) (f : String) (d : Option Module) : (initModule y c isB f d).sourcesOptional = (base y c f d).sourcesOptional := by unfold initModule; rfl
theorem initModule_tasks (y : YModule) (c : Option String) (isB : Bool) (f : String) (d : Option Module) : (initModule y c isB f d).tasks = (base y c f d).tasks := by unfold initModule; rfl
theorem initModule_build (y : YModule) (c : Option String) (isB : Bool) (f : String) (d : Option Module) : (initModule y c isB f d).build = (base y c f d).build := by unfold initModule; rfl
theorem initModule_envLocal (y : YModule) (c : Option String) (isB : Bool) (f : String) (d : Option Module) : (initModule y c isB f d).envLocal = (base y c f d).envLocal := by unfold initModule; rfl
theorem initModule_envExport (y : YModule) (c : Option String) (isB : Bool) (f : String) (d : Option Module) : (initModule y c isB f d).envExport = (base y c f d).envExport := by unfold initModule; rfl
theorem initModule_envGlobal (y : YModule) (c : Option String) (isB : Bool) (f : String) (d : Option Module) : (initModule y c isB f d).envGlobal = (base y c f d).envGlobal := by unfold initModule; rfl
theorem initModule_envEarly (y : YModule) (c : Option String) (isB : Bool) (f : String) (d : Option Module) : (initModule y c isB f d).envEarly = (base y c f d).envEarly := by unfold initModule; rfl
theorem initModule_download (y : YModule) (c : Option String) (isB : Bool) (f : String) (d : Option Module) : (initModule y c isB f d).download = (base y c f d).download := by unfold initModule; rfl
theorem initModule_definedIn (y : YModule) (c : Option String) (isB : Bool) (f : String) (d : Option Module) : (initModule y c isB f d).definedIn = f := by unfold initModule; rfl
theorem initModule_relpath (y : YModule) (c : Option String) (isB : Bool) (f : String) (d : Option Module) : (initModule y c isB f d).relpath = relpathOf f := by rw [initModule]
theorem initModule_srcdir (y : YModule) (c : Option String) (isB : Bool) (f : String) (d : Option Module) : (initModule y c isB f d).srcdir = (base y c f d).srcdir := by unfold initModule; rfl
theorem initModule_buildDepFiles (y : YModule) (c : Option String) (isB : Bool) (f : String) (d : Option Module) : (initModule y c isB f d).buildDepFiles = (base y c f d).buildDepFiles := by unfold initModule; rfl
theorem initModule_isBuildDep (y : YModule) (c : Option String) (isB : Bool) (f : String) (d : Option Module) : (initModule y c isB f d).isBuildDep = (base y c f d).isBuildDep := by unfold initModule; rfl
theorem initModule_isGlobalBuildDep (y : YModule) (c : Option String) (isB : Bool) (f : String) (d : Option Module) : (initModule y c isB f d).isGlobalBuildDep = (base y c f d).isGlobalBuildDep := by unfold initModule; rfl
theorem initModule_isBinary (y : YModule) (c : Option String) (isB : Bool) (f : String) (d : Option Module) : (initModule y c isB f d).isBinary = isB := by unfold initModule; rfl
theorem withDeps_name (selA uses deps : List Dep) (m : Module) : (withDeps selA uses deps m).name = m.name := by unfold withDeps; rfl
theorem withDeps_contextName (selA uses deps : List Dep) (m : Module) : (withDeps selA uses deps m).contextName = m.contextName := by unfold withDeps; rfl
theorem withDeps_selects (selA uses deps : List Dep) (m : Module) : (withDeps selA uses deps m).selects = m.selects ++ selA ++ deps := by unfold withDeps; rfl
theorem withDeps_imports (selA uses deps : List Dep) (m : Module) : (withDeps selA uses deps m).imports = m.imports ++ uses ++ deps := by unfold withDeps; rfl
theorem withDeps_provides (selA uses deps : List Dep) (m : Module) : (withDeps selA uses deps m).provides = m.provides := by unfold withDeps; rfl
theorem withDeps_conflicts (selA uses deps : List Dep) (m : Module) : (withDeps selA uses deps m).conflicts = m.conflicts := by unfold withDeps; rfl
theorem withDeps_notifyAll (selA uses deps : List Dep) (m : Module) : (withDeps selA uses deps m).notifyAll = m.notifyAll := by unfold withDeps; rfl
theorem withDeps_blocklist (selA uses deps : List Dep) (m : Module) : (withDeps selA uses deps m).blocklist = m.blocklist := by unfold withDeps; rfl
theorem withDeps_allowlist (selA uses deps : List Dep) (m : Module) : (withDeps selA uses deps m).allowlist = m.allowlist := by unfold withDeps; rfl
theorem withDeps_sources (selA uses deps : List Dep) (m : Module) : (withDeps selA uses deps m).sources = m.sources := by unfold withDeps; rfl
theorem withDeps_sourcesOptional (selA uses deps : List Dep) (m : Module) : (withDeps selA uses deps m).sourcesOptional = m.sourcesOptional := by unfold withDeps; rfl
theorem withDeps_tasks (selA uses deps : List Dep) (m : Module) : (withDeps selA uses deps m).tasks = m.tasks := by unfold withDeps; rfl
theorem withDeps_build (selA uses deps : List Dep) (m : Module) : (withDeps selA uses deps m).build = m.build := by unfold withDeps; rfl
theorem withDeps_envLocal (selA uses deps : List Dep) (m : Module) : (withDeps selA uses deps m).envLocal = m.envLocal := by unfold withDeps; rfl
theorem withDeps_envExport (selA uses deps : List Dep) (m : Module) : (withDeps selA uses deps m).envExport = m.envExport := by unfold withDeps; rfl
theorem withDeps_envGlobal (selA uses deps : List Dep) (m : Module) : (withDeps selA uses deps m).envGlobal = m.envGlobal := by unfold withDeps; rfl
theorem withDeps_envEarly (selA uses deps : List Dep) (m : Module) : (withDeps selA uses deps m).envEarly = m.envEarly := by unfold withDeps; rfl
theorem withDeps_download (selA uses deps : List Dep) (m : Module) : (withDeps selA uses deps m).download = m.download := by unfold withDeps; rfl
theorem withDeps_definedIn (selA uses deps : List Dep) (m : Module) : (withDeps selA uses deps m).definedIn = m.definedIn := by unfold withDeps; rfl
theorem withDeps_relpath (selA uses deps : List Dep) (m : Module) : (withDeps selA uses deps m).relpath = m.relpath := by unfold withDeps; rfl
theorem withDeps_srcdir (selA uses deps : List Dep) (m : Module) : (withDeps selA uses deps m).srcdir = m.srcdir := by unfold withDeps; rfl
theorem withDeps_buildDepFiles (selA uses deps : List Dep) (m : Module) : (withDeps selA uses deps m).buildDepFiles = m.buildDepFiles := by unfold withDeps; rfl
theorem withDeps_isBuildDep (selA uses deps : List Dep) (m : Module) : (withDeps selA uses deps m).isBuildDep = m.isBuildDep := by unfold withDeps; rfl
theorem withDeps_isGlobalBuildDep (selA uses deps : List Dep) (m : Module) : (withDeps selA uses deps m).isGlobalBuildDep = m.isGlobalBuildDep := by unfold withDeps; rfl
theorem withDeps_isBinary (selA uses deps : List Dep) (m : Module) : (withDeps selA uses deps m).isBinary = m.isBinary := by unfold withDeps; rfl
theorem withConflicts_name (y : YModule) (m : Module) : (withConflicts y m).name = m.name := by rw [withConflicts_eq]
theorem withConflicts_contextName (y : YModule) (m : Module) : (withConflicts y m).contextName = m.contextName := by rw [withConflicts_eq]
theorem withConflicts_selects (y : YModule) (m : Module) : (withConflicts y m).selects = m.selects := by rw [withConflicts_eq]
theorem withConflicts_imports (y : YModule) (m : Module) : (withConflicts y m).imports = m.imports := by rw [withConflicts_eq]
theorem withConflicts_provides (y : YModule) (m : Module) : (withConflicts y m).provides = m.provides := by rw [withConflicts_eq]
theorem withConflicts_conflicts (y : YModule) (m : Module) : (withConflicts y m).conflicts = addOpt m.conflicts y.conflicts := by rw [withConflicts_eq]
theorem withConflicts_notifyAll (y : YModule) (m : Module) : (withConflicts y m).notifyAll = m.notifyAll := by rw [withConflicts_eq]
theorem withConflicts_blocklist (y : YModule) (m : Module) : (withConflicts y m).blocklist = m.blocklist := by rw [withConflicts_eq]
theorem withConflicts_allowlist (y : YModule) (m : Module) : (withConflicts y m).allowlist = m.allowlist := by rw [withConflicts_eq]
theorem withConflicts_sources (y : YModule) (m : Module) : (withConflicts y m).sources = m.sources := by rw [withConflicts_eq]
theorem withConflicts_sourcesOptional (y : YModule) (m : Module) : (withConflicts y m).sourcesOptional = m.sourcesOptional := by rw [withConflicts_eq]
theorem withConflicts_tasks (y : YModule) (m : Module) : (withConflicts y m).tasks = m.tasks := by rw [withConflicts_eq]
theorem withConflicts_build (y : YModule) (m : Module) : (withConflicts y m).build = m.build := by rw [withConflicts_eq]
theorem withConflicts_envLocal (y : YModule) (m : Module) : (withConflicts y m).envLocal = m.envLocal := by rw [withConflicts_eq]
theorem withConflicts_envExport (y : YModule) (m : Module) : (withConflicts y m).envExport = m.envExport := by rw [withConflicts_eq]
theorem withConflicts_envGlobal (y : YModule) (m : Module) : (withConflicts y m).envGlobal = m.envGlobal := by rw [withConflicts_eq]
theorem withConflicts_envEarly (y : YModule) (m : Module) : (withConflicts y m).envEarly = m.envEarly := by rw [withConflicts_eq]
theorem withConflicts_download (y : YModule) (m : Module) : (withConflicts y m).download = m.download := by rw [withConflicts_eq]
theorem withConflicts_definedIn (y : YModule) (m : Module) : (withConflicts y m).definedIn = m.definedIn := by rw [withConflicts_eq]
theorem withConflicts_relpath (y : YModule) (m : Module) : (withConflicts y m).relpath = m.relpath := by rw [withConflicts_eq]
theorem withConflicts_srcdir (y : YModule) (m : Module) : (withConflicts y m).srcdir = m.srcdir := by rw [withConflicts_eq]
theorem withConflicts_buildDepFiles (y : YModule) (m : Module) : (withConflicts y m).buildDepFiles = m.buildDepFiles := by rw [withConflicts_eq]
theorem withConflicts_isBuildDep (y : YModule) (m : Module) : (withConflicts y m).isBuildDep = m.isBuildDep := by rw [withConflicts_eq]
theorem withConflicts_isGlobalBuildDep (y : YModule) (m : Module) : (withConflicts y m).isGlobalBuildDep = m.isGlobalBuildDep := by rw [withConflicts_eq]
theorem withConflicts_isBinary (y : YModule) (m : Module) : (withConflicts y m).isBinary = m.isBinary := by rw [withConflicts_eq]
theorem withProvides_name (y : YModule) (m : Module) : (withProvides y m).name = m.name := by rw [withProvides_eq]
theorem withProvides_contextName (y : YModule) (m : Module) : (withProvides y m).contextName = m.contextName := by rw [withProvides_eq]
theorem withProvides_selects (y : YModule) (m : Module) : (withProvides y m).selects = m.selects := by rw [withProvides_eq]
theorem withProvides_imports (y : YModule) (m : Module) : (withProvides y m).imports = m.imports := by rw [withProvides_eq]
theorem withProvides_provides (y : YModule) (m : Module) : (withProvides y m).provides = addOpt m.provides y.provides := by rw [withProvides_eq]
theorem withProvides_conflicts (y : YModule) (m : Module) : (withProvides y m).conflicts = m.conflicts := by rw [withProvides_eq]
theorem withProvides_notifyAll (y : YModule) (m : Module) : (withProvides y m).notifyAll = m.notifyAll := by rw [withProvides_eq]
theorem withProvides_blocklist (y : YModule) (m : Module) : (withProvides y m).blocklist = m.blocklist := by rw [withProvides_eq]
theorem withProvides_allowlist (y : YModule) (m : Module) : (withProvides y m).allowlist = m.allowlist := by rw [withProvides_eq]
theorem withProvides_sources (y : YModule) (m : Module) : (withProvides y m).sources = m.sources := by rw [withProvides_eq]
theorem withProvides_sourcesOptional (y : YModule) (m : Module) : (withProvides y m).sourcesOptional = m.sourcesOptional := by rw [withProvides_eq]
theorem withProvides_tasks (y : YModule) (m : Module) : (withProvides y m).tasks = m.tasks := by rw [withProvides_eq]
theorem withProvides_build (y : YModule) (m : Module) : (withProvides y m).build = m.build := by rw [withProvides_eq]
theorem withProvides_envLocal (y : YModule) (m : Module) : (withProvides y m).envLocal = m.envLocal := by rw [withProvides_eq]
theorem withProvides_envExport (y : YModule) (m : Module) : (withProvides y m).envExport = m.envExport := by rw [withProvides_eq]
theorem withProvides_envGlobal (y : YModule) (m : Module) : (withProvides y m).envGlobal = m.envGlobal := by rw [withProvides_eq]
theorem withProvides_envEarly (y : YModule) (m : Module) : (withProvides y m).envEarly = m.envEarly := by rw [withProvides_eq]
theorem withProvides_download (y : YModule) (m : Module) : (withProvides y m).download = m.download := by rw [withProvides_eq]
theorem withProvides_definedIn (y : YModule) (m : Module) : (withProvides y m).definedIn = m.definedIn := by rw [withProvides_eq]
theorem withProvides_relpath (y : YModule) (m : Module) : (withProvides y m).relpath = m.relpath := by rw [withProvides_eq]
theorem withProvides_srcdir (y : YModule) (m : Module) : (withProvides y m).srcdir = m.srcdir := by rw [withProvides_eq]
theorem withProvides_buildDepFiles (y : YModule) (m : Module) : (withProvides y m).buildDepFiles = m.buildDepFiles := by rw [withProvides_eq]
theorem withProvides_isBuildDep (y : YModule) (m : Module) : (withProvides y m).isBuildDep = m.isBuildDep := by rw [withProvides_eq]
theorem withProvides_isGlobalBuildDep (y : YModule) (m : Module) : (withProvides y m).isGlobalBuildDep = m.isGlobalBuildDep := by rw [withProvides_eq]
theorem withProvides_isBinary (y : YModule) (m : Module) : (withProvides y m).isBinary = m.isBinary := by rw [withProvides_eq]
theorem withProvidesUnique_name (y : YModule) (m : Module) : (withProvidesUnique y m).name = m.name := by rw [withProvidesUnique_eq]
theorem withProvidesUnique_contextName (y : YModule) (m : Module) : (withProvidesUnique y m).contextName = m.contextName := by rw [withProvidesUnique_eq]
theorem withProvidesUnique_selects (y : YModule) (m : Module) : (withProvidesUnique y m).selects = m.selects := by rw [withProvidesUnique_eq]
theorem withProvidesUnique_imports (y : YModule) (m : Module) : (withProvidesUnique y m).imports = m.imports := by rw [withProvidesUnique_eq]
theorem withProvidesUnique_provides (y : YModule) (m : Module) : (withProvidesUnique y m).provides = addOpt m.provides y.providesUnique := by rw [withProvidesUnique_eq]
theorem withProvidesUnique_conflicts (y : YModule) (m : Module) : (withProvidesUnique y m).conflicts = addOpt m.conflicts y.providesUnique := by rw [withProvidesUnique_eq]
theorem withProvidesUnique_notifyAll (y : YModule) (m : Module) : (withProvidesUnique y m).notifyAll = m.notifyAll := by rw [withProvidesUnique_eq]
theorem withProvidesUnique_blocklist (y : YModule) (m : Module) : (withProvidesUnique y m).blocklist = m.blocklist := by rw [withProvidesUnique_eq]
theorem withProvidesUnique_allowlist (y : YModule) (m : Module) : (withProvidesUnique y m).allowlist = m.allowlist := by rw [withProvidesUnique_eq]
theorem withProvidesUnique_sources (y : YModule) (m : Module) : (withProvidesUnique y m).sources = m.sources := by rw [withProvidesUnique_eq]
theorem withProvidesUnique_sourcesOptional (y : YModule) (m : Module) : (withProvidesUnique y m).sourcesOptional = m.sourcesOptional := by rw [withProvidesUnique_eq]
theorem withProvidesUnique_tasks (y : YModule) (m : Module) : (withProvidesUnique y m).tasks = m.tasks := by rw [withProvidesUnique_eq]
theorem withProvidesUnique_build (y : YModule) (m : Module) : (withProvidesUnique y m).build = m.build := by rw [withProvidesUnique_eq]
theorem withProvidesUnique_envLocal (y : YModule) (m : Module) : (withProvidesUnique y m).envLocal = m.envLocal := by rw [withProvidesUnique_eq]
theorem withProvidesUnique_envExport (y : YModule) (m : Module) : (withProvidesUnique y m).envExport = m.envExport := by rw [withProvidesUnique_eq]
theorem withProvidesUnique_envGlobal (y : YModule) (m : Module) : (withProvidesUnique y m).envGlobal = m.envGlobal := by rw [withProvidesUnique_eq]
theorem withProvidesUnique_envEarly (y : YModule) (m : Module) : (withProvidesUnique y m).envEarly = m.envEarly := by rw [withProvidesUnique_eq]
theorem withProvidesUnique_download (y : YModule) (m : Module) : (withProvidesUnique y m).download = m.download := by rw [withProvidesUnique_eq]
theorem withProvidesUnique_definedIn (y : YModule) (m : Module) : (withProvidesUnique y m).definedIn = m.definedIn := by rw [withProvidesUnique_eq]
theorem withProvidesUnique_relpath (y : YModule) (m : Module) : (withProvidesUnique y m).relpath = m.relpath := by rw [withProvidesUnique_eq]
theorem withProvidesUnique_srcdir (y : YModule) (m : Module) : (withProvidesUnique y m).srcdir = m.srcdir := by rw [withProvidesUnique_eq]
theorem withProvidesUnique_buildDepFiles (y : YModule) (m : Module) : (withProvidesUnique y m).buildDepFiles = m.buildDepFiles := by rw [withProvidesUnique_eq]
theorem withProvidesUnique_isBuildDep (y : YModule) (m : Module) : (withProvidesUnique y m).isBuildDep = m.isBuildDep := by rw [withProvidesUnique_eq]
theorem withProvidesUnique_isGlobalBuildDep (y : YModule) (m : Module) : (withProvidesUnique y m).isGlobalBuildDep = m.isGlobalBuildDep := by rw [withProvidesUnique_eq]
theorem withProvidesUnique_isBinary (y : YModule) (m : Module) : (withProvidesUnique y m).isBinary = m.isBinary := by rw [withProvidesUnique_eq]
theorem withNotifyAll_name (y : YModule) (m : Module) : (withNotifyAll y m).name = m.name := by rw [withNotifyAll_eq]
theorem withNotifyAll_contextName (y : YModule) (m : Module) : (withNotifyAll y m).contextName = m.contextName := by rw [withNotifyAll_eq]
theorem withNotifyAll_selects (y : YModule) (m : Module) : (withNotifyAll y m).selects = m.selects := by rw [withNotifyAll_eq]
theorem withNotifyAll_imports (y : YModule) (m : Module) : (withNotifyAll y m).imports = m.imports := by rw [withNotifyAll_eq]
theorem withNotifyAll_provides (y : YModule) (m : Module) : (withNotifyAll y m).provides = m.provides := by rw [withNotifyAll_eq]
theorem withNotifyAll_conflicts (y : YModule) (m : Module) : (withNotifyAll y m).conflicts = m.conflicts := by rw [withNotifyAll_eq]
theorem withNotifyAll_notifyAll (y : YModule) (m : Module) : (withNotifyAll y m).notifyAll = (y.notifyAll || m.notifyAll) := by rw [withNotifyAll_eq]
theorem withNotifyAll_blocklist (y : YModule) (m : Module) : (withNotifyAll y m).blocklist = m.blocklist := by rw [withNotifyAll_eq]
theorem withNotifyAll_allowlist (y : YModule) (m : Module) : (withNotifyAll y m).allowlist = m.allowlist := by rw [withNotifyAll_eq]
theorem withNotifyAll_sources (y : YModule) (m : Module) : (withNotifyAll y m).sources = m.sources := by rw [withNotifyAll_eq]
theorem withNotifyAll_sourcesOptional (y : YModule) (m : Module) : (withNotifyAll y m).sourcesOptional = m.sourcesOptional := by rw [withNotifyAll_eq]
theorem withNotifyAll_tasks (y : YModule) (m : Module) : (withNotifyAll y m).tasks = m.tasks := by rw [withNotifyAll_eq]
theorem withNotifyAll_build (y : YModule) (m : Module) : (withNotifyAll y m).build = m.build := by rw [withNotifyAll_eq]
theorem withNotifyAll_envLocal (y : YModule) (m : Module) : (withNotifyAll y m).envLocal = m.envLocal := by rw [withNotifyAll_eq]
theorem withNotifyAll_envExport (y : YModule) (m : Module) : (withNotifyAll y m).envExport = m.envExport := by rw [withNotifyAll_eq]
theorem withNotifyAll_envGlobal (y : YModule) (m : Module) : (withNotifyAll y m).envGlobal = m.envGlobal := by rw [withNotifyAll_eq]
theorem withNotifyAll_envEarly (y : YModule) (m : Module) : (withNotifyAll y m).envEarly = m.envEarly := by rw [withNotifyAll_eq]
theorem withNotifyAll_download (y : YModule) (m : Module) : (withNotifyAll y m).download = m.download := by rw [withNotifyAll_eq]
theorem withNotifyAll_definedIn (y : YModule) (m : Module) : (withNotifyAll y m).definedIn = m.definedIn := by rw [withNotifyAll_eq]
theorem withNotifyAll_relpath (y : YModule) (m : Module) : (withNotifyAll y m).relpath = m.relpath := by rw [withNotifyAll_eq]
theorem withNotifyAll_srcdir (y : YModule) (m : Module) : (withNotifyAll y m).srcdir = m.srcdir := by rw [withNotifyAll_eq]
theorem withNotifyAll_buildDepFiles (y : YModule) (m : Module) : (withNotifyAll y m).buildDepFiles = m.buildDepFiles := by rw [withNotifyAll_eq]
theorem withNotifyAll_isBuildDep (y : YModule) (m : Module) : (withNotifyAll y m).isBuildDep = m.isBuildDep := by rw [withNotifyAll_eq]
theorem withNotifyAll_isGlobalBuildDep (y : YModule) (m : Module) : (withNotifyAll y m).isGlobalBuildDep = m.isGlobalBuildDep := by rw [withNotifyAll_eq]
theorem withNotifyAll_isBinary (y : YModule) (m : Module) : (withNotifyAll y m).isBinary = m.isBinary := by rw [withNotifyAll_eq]
theorem withRemoves_name (m : Module) : (withRemoves m).name = m.name := by unfold withRemoves; rfl
theorem withRemoves_contextName (m : Module) : (withRemoves m).contextName = m.contextName := by unfold withRemoves; rfl
theorem withRemoves_selects (m : Module) : (withRemoves m).selects = processRemoves m.selects := by unfold withRemoves; rfl
theorem withRemoves_imports (m : Module) : (withRemoves m).imports = processRemoves m.imports := by unfold withRemoves; rfl
theorem withRemoves_provides (m : Module) : (withRemoves m).provides = m.provides := by unfold withRemoves; rfl
theorem withRemoves_conflicts (m : Module) : (withRemoves m).conflicts = m.conflicts := by unfold withRemoves; rfl
theorem withRemoves_notifyAll (m : Module) : (withRemoves m).notifyAll = m.notifyAll := by unfold withRemoves; rfl
theorem withRemoves_blocklist (m : Module) : (withRemoves m).blocklist = m.blocklist := by unfold withRemoves; rfl
theorem withRemoves_allowlist (m : Module) : (withRemoves m).allowlist = m.allowlist := by unfold withRemoves; rfl
theorem withRemoves_sources (m : Module) : (withRemoves m).sources = m.sources := by unfold withRemoves; rfl
theorem withRemoves_sourcesOptional (m : Module) : (withRemoves m).sourcesOptional = m.sourcesOptional := by unfold withRemoves; rfl
theorem withRemoves_tasks (m : Module) : (withRemoves m).tasks = m.tasks := by unfold withRemoves; rfl
theorem withRemoves_build (m : Module) : (withRemoves m).build = m.build := by unfold withRemoves; rfl
theorem withRemoves_envLocal (m : Module) : (withRemoves m).envLocal = m.envLocal := by unfold withRemoves; rfl
theorem withRemoves_envExport (m : Module) : (withRemoves m).envExport = m.envExport := by unfold withRemoves; rfl
theorem withRemoves_envGlobal (m : Module) : (withRemoves m).envGlobal = m.envGlobal := by unfold withRemoves; rfl
theorem withRemoves_envEarly (m : Module) : (withRemoves m).envEarly = m.envEarly := by unfold withRemoves; rfl
theorem withRemoves_download (m : Module) : (withRemoves m).download = m.download := by unfold withRemoves; rfl
theorem withRemoves_definedIn (m : Module) : (withRemoves m).definedIn = m.definedIn := by unfold withRemoves; rfl
theorem withRemoves_relpath (m : Module) : (withRemoves m).relpath = m.relpath := by unfold withRemoves; rfl
theorem withRemoves_srcdir (m : Module) : (withRemoves m).srcdir = m.srcdir := by unfold withRemoves; rfl
theorem withRemoves_buildDepFiles (m : Module) : (withRemoves m).buildDepFiles = m.buildDepFiles := by unfold withRemoves; rfl
theorem withRemoves_isBuildDep (m : Module) : (withRemoves m).isBuildDep = m.isBuildDep := by unfold withRemoves; rfl
theorem withRemoves_isGlobalBuildDep (m : Module) : (withRemoves m).isGlobalBuildDep = m.isGlobalBuildDep := by unfold withRemoves; rfl
theorem withRemoves_isBinary (m : Module) : (withRemoves m).isBinary = m.isBinary := by unfold withRemoves; rfl
theorem withEnvs_name (y : YModule) (m : Module) : (withEnvs y m).name = m.name := by unfold withEnvs; rfl
theorem withEnvs_contextName (y : YModule) (m : Module) : (withEnvs y m).contextName = m.contextName := by unfold withEnvs; rfl
theorem withEnvs_selects (y : YModule) (m : Module) : (withEnvs y m).selects = m.selects := by unfold withEnvs; rfl
theorem withEnvs_imports (y : YModule) (m : Module) : (withEnvs y m).imports = m.imports := by unfold withEnvs; rfl
theorem withEnvs_provides (y : YModule) (m : Module) : (withEnvs y m).provides = m.provides := by unfold withEnvs; rfl
theorem withEnvs_conflicts (y : YModule) (m : Module) : (withEnvs y m).conflicts = m.conflicts := by unfold withEnvs; rfl
theorem withEnvs_notifyAll (y : YModule) (m : Module) : (withEnvs y m).notifyAll = m.notifyAll := by unfold withEnvs; rfl
theorem withEnvs_blocklist (y : YModule) (m : Module) : (withEnvs y m).blocklist = m.blocklist := by unfold withEnvs; rfl
theorem withEnvs_allowlist (y : YModule) (m : Module) : (withEnvs y m).allowlist = m.allowlist := by unfold withEnvs; rfl
theorem withEnvs_sources (y : YModule) (m : Module) : (withEnvs y m).sources = m.sources := by unfold withEnvs; rfl
theorem withEnvs_sourcesOptional (y : YModule) (m : Module) : (withEnvs y m).sourcesOptional = m.sourcesOptional := by unfold withEnvs; rfl
theorem withEnvs_tasks (y : YModule) (m : Module) : (withEnvs y m).tasks = m.tasks := by unfold withEnvs; rfl
theorem withEnvs_build (y : YModule) (m : Module) : (withEnvs y m).build = m.build := by unfold withEnvs; rfl
theorem withEnvs_envLocal (y : YModule) (m : Module) : (withEnvs y m).envLocal = mergeOptEnv m.envLocal y.envLocal := by unfold withEnvs; rfl
theorem withEnvs_envExport (y : YModule) (m : Module) : (withEnvs y m).envExport = mergeOptEnv m.envExport y.envExport := by unfold withEnvs; rfl
theorem withEnvs_envGlobal (y : YModule) (m : Module) : (withEnvs y m).envGlobal = mergeOptEnv m.envGlobal y.envGlobal := by unfold withEnvs; rfl
theorem withEnvs_envEarly (y : YModule) (m : Module) : (withEnvs y m).envEarly = m.envEarly := by unfold withEnvs; rfl
theorem withEnvs_download (y : YModule) (m : Module) : (withEnvs y m).download = m.download := by unfold withEnvs; rfl
theorem withEnvs_definedIn (y : YModule) (m : Module) : (withEnvs y m).definedIn = m.definedIn := by unfold withEnvs; rfl
theorem withEnvs_relpath (y : YModule) (m : Module) : (withEnvs y m).relpath = m.relpath := by unfold withEnvs; rfl
theorem withEnvs_srcdir (y : YModule) (m : Module) : (withEnvs y m).srcdir = m.srcdir := by unfold withEnvs; rfl
theorem withEnvs_buildDepFiles (y : YModule) (m : Module) : (withEnvs y m).buildDepFiles = m.buildDepFiles := by unfold withEnvs; rfl
theorem withEnvs_isBuildDep (y : YModule) (m : Module) : (withEnvs y m).isBuildDep = m.isBuildDep := by unfold withEnvs; rfl
theorem withEnvs_isGlobalBuildDep (y : YModule) (m : Module) : (withEnvs y m).isGlobalBuildDep = m.isGlobalBuildDep := by unfold withEnvs; rfl
theorem withEnvs_isBinary (y : YModule) (m : Module) : (withEnvs y m).isBinary = m.isBinary := by unfold withEnvs; rfl
theorem withSources_name (y : YModule) (m : Module) : (withSources y m).name = m.name := by rw [withSources_eq]
theorem withSources_contextName (y : YModule) (m : Module) : (withSources y m).contextName = m.contextName := by rw [withSources_eq]
theorem withSources_selects (y : YModule) (m : Module) : (withSources y m).selects = m.selects := by rw [withSources_eq]
theorem withSources_imports (y : YModule) (m : Module) : (withSources y m).imports = m.imports := by rw [withSources_eq]
theorem withSources_provides (y : YModule) (m : Module) : (withSources y m).provides = m.provides := by rw [withSources_eq]
theorem withSources_conflicts (y : YModule) (m : Module) : (withSources y m).conflicts = m.conflicts := by rw [withSources_eq]
theorem withSources_notifyAll (y : YModule) (m : Module) : (withSources y m).notifyAll = m.notifyAll := by rw [withSources_eq]
theorem withSources_blocklist (y : YModule) (m : Module) : (withSources y m).blocklist = m.blocklist := by rw [withSources_eq]
theorem withSources_allowlist (y : YModule) (m : Module) : (withSources y m).allowlist = m.allowlist := by rw [withSources_eq]
theorem withSources_sources (y : YModule) (m : Module) : (withSources y m).sources = m.sources ++ ownSources y := by rw [withSources_eq]
theorem withSources_sourcesOptional (y : YModule) (m : Module) : (withSources y m).sourcesOptional = sourcesOptionalOf y m := by rw [withSources_eq]
theorem withSources_tasks (y : YModule) (m : Module) : (withSources y m).tasks = m.tasks := by rw [withSources_eq]
theorem withSources_build (y : YModule) (m : Module) : (withSources y m).build = m.build := by rw [withSources_eq]
theorem withSources_envLocal (y : YModule) (m : Module) : (withSources y m).envLocal = m.envLocal := by rw [withSources_eq]
theorem withSources_envExport (y : YModule) (m : Module) : (withSources y m).envExport = m.envExport := by rw [withSources_eq]
theorem withSources_envGlobal (y : YModule) (m : Module) : (withSources y m).envGlobal = m.envGlobal := by rw [withSources_eq]
theorem withSources_envEarly (y : YModule) (m : Module) : (withSources y m).envEarly = m.envEarly := by rw [withSources_eq]
theorem withSources_download (y : YModule) (m : Module) : (withSources y m).download = m.download := by rw [withSources_eq]
theorem withSources_definedIn (y : YModule) (m : Module) : (withSources y m).definedIn = m.definedIn := by rw [withSources_eq]
theorem withSources_relpath (y : YModule) (m : Module) : (withSources y m).relpath = m.relpath := by rw [withSources_eq]
theorem withSources_srcdir (y : YModule) (m : Module) : (withSources y m).srcdir = m.srcdir := by rw [withSources_eq]
theorem withSources_buildDepFiles (y : YModule) (m : Module) : (withSources y m).buildDepFiles = m.buildDepFiles := by rw [withSources_eq]
theorem withSources_isBuildDep (y : YModule) (m : Module) : (withSources y m).isBuildDep = m.isBuildDep := by rw [withSources_eq]
theorem withSources_isGlobalBuildDep (y : YModule) (m : Module) : (withSources y m).isGlobalBuildDep = m.isGlobalBuildDep := by rw [withSources_eq]
theorem withSources_isBinary (y : YModule) (m : Module) : (withSources y m).isBinary = m.isBinary := by rw [withSources_eq]
theorem withLists_name (y : YModule) (m : Module) : (withLists y m).name = m.name := by unfold withLists; rfl
theorem withLists_contextName (y : YModule) (m : Module) : (withLists y m).contextName = m.contextName := by unfold withLists; rfl
theorem withLists_selects (y : YModule) (m : Module) : (withLists y m).selects = m.selects := by unfold withLists; rfl
theorem withLists_imports (y : YModule) (m : Module) : (withLists y m).imports = m.imports := by unfold withLists; rfl
theorem withLists_provides (y : YModule) (m : Module) : (withLists y m).provides = m.provides := by unfold withLists; rfl
theorem withLists_conflicts (y : YModule) (m : Module) : (withLists y m).conflicts = m.conflicts := by unfold withLists; rfl
theorem withLists_notifyAll (y : YModule) (m : Module) : (withLists y m).notifyAll = m.notifyAll := by unfold withLists; rfl
theorem withLists_blocklist (y : YModule) (m : Module) : (withLists y m).blocklist = extendList m.blocklist y.blocklist := by unfold withLists; rfl
theorem withLists_allowlist (y : YModule) (m : Module) : (withLists y m).allowlist = extendList m.allowlist y.allowlist := by unfold withLists; rfl
theorem withLists_sources (y : YModule) (m : Module) : (withLists y m).sources = m.sources := by unfold withLists; rfl
theorem withLists_sourcesOptional (y : YModule) (m : Module) : (withLists y m).sourcesOptional = m.sourcesOptional := by unfold withLists; rfl
theorem withLists_tasks (y : YModule) (m : Module) : (withLists y m).tasks = m.tasks := by unfold withLists; rfl
theorem withLists_build (y : YModule) (m : Module) : (withLists y m).build = m.build := by unfold withLists; rfl
theorem withLists_envLocal (y : YModule) (m : Module) : (withLists y m).envLocal = m.envLocal := by unfold withLists; rfl
theorem withLists_envExport (y : YModule) (m : Module) : (withLists y m).envExport = m.envExport := by unfold withLists; rfl
theorem withLists_envGlobal (y : YModule) (m : Module) : (withLists y m).envGlobal = m.envGlobal := by unfold withLists; rfl
theorem withLists_envEarly (y : YModule) (m : Module) : (withLists y m).envEarly = m.envEarly := by unfold withLists; rfl
theorem withLists_download (y : YModule) (m : Module) : (withLists y m).download = m.download := by unfold withLists; rfl
theorem withLists_definedIn (y : YModule) (m : Module) : (withLists y m).definedIn = m.definedIn := by unfold withLists; rfl
theorem withLists_relpath (y : YModule) (m : Module) : (withLists y m).relpath = m.relpath := by unfold withLists; rfl
theorem withLists_srcdir (y : YModule) (m : Module) : (withLists y m).srcdir = m.srcdir := by unfold withLists; rfl
theorem withLists_buildDepFiles (y : YModule) (m : Module) : (withLists y m).buildDepFiles = m.buildDepFiles := by unfold withLists; rfl
theorem withLists_isBuildDep (y : YModule) (m : Module) : (withLists y m).isBuildDep = m.isBuildDep := by unfold withLists; rfl
theorem withLists_isGlobalBuildDep (y : YModule) (m : Module) : (withLists y m).isGlobalBuildDep = m.isGlobalBuildDep := by unfold withLists; rfl
theorem withLists_isBinary (y : YModule) (m : Module) : (withLists y m).isBinary = m.isBinary := by unfold withLists; rfl
theorem withDownload_name (y : YModule) (bd rp : String) (m : Module) : (withDownload y bd rp m).name = m.name := by rw [withDownload_eq]
theorem withDownload_contextName (y : YModule) (bd rp : String) (m : Module) : (withDownload y bd rp m).contextName = m.contextName := by rw [withDownload_eq]
theorem withDownload_selects (y : YModule) (bd rp : String) (m : Module) : (withDownload y bd rp m).selects = m.selects := by rw [withDownload_eq]
theorem withDownload_imports (y : YModule) (bd rp : String) (m : Module) : (withDownload y bd rp m).imports = m.imports := by rw [withDownload_eq]
theorem withDownload_provides (y : YModule) (bd rp : String) (m : Module) : (withDownload y bd rp m).provides = m.provides := by rw [withDownload_eq]
theorem withDownload_conflicts (y : YModule) (bd rp : String) (m : Module) : (withDownload y bd rp m).conflicts = m.conflicts := by rw [withDownload_eq]
theorem withDownload_notifyAll (y : YModule) (bd rp : String) (m : Module) : (withDownload y bd rp m).notifyAll = m.notifyAll := by rw [withDownload_eq]
theorem withDownload_blocklist (y : YModule) (bd rp : String) (m : Module) : (withDownload y bd rp m).blocklist = m.blocklist := by rw [withDownload_eq]
theorem withDownload_allowlist (y : YModule) (bd rp : String) (m : Module) : (withDownload y bd rp m).allowlist = m.allowlist := by rw [withDownload_eq]
theorem withDownload_sources (y : YModule) (bd rp : String) (m : Module) : (withDownload y bd rp m).sources = m.sources := by rw [withDownload_eq]
theorem withDownload_sourcesOptional (y : YModule) (bd rp : String) (m : Module) : (withDownload y bd rp m).sourcesOptional = m.sourcesOptional := by rw [withDownload_eq]
theorem withDownload_tasks (y : YModule) (bd rp : String) (m : Module) : (withDownload y bd rp m).tasks = m.tasks := by rw [withDownload_eq]
theorem withDownload_build (y : YModule) (bd rp : String) (m : Module) : (withDownload y bd rp m).build = m.build := by rw [withDownload_eq]
theorem withDownload_envLocal (y : YModule) (bd rp : String) (m : Module) : (withDownload y bd rp m).envLocal = m.envLocal := by rw [withDownload_eq]
theorem withDownload_envExport (y : YModule) (bd rp : String) (m : Module) : (withDownload y bd rp m).envExport = m.envExport := by rw [withDownload_eq]
theorem withDownload_envGlobal (y : YModule) (bd rp : String) (m : Module) : (withDownload y bd rp m).envGlobal = m.envGlobal := by rw [withDownload_eq]
theorem withDownload_envEarly (y : YModule) (bd rp : String) (m : Module) : (withDownload y bd rp m).envEarly = m.envEarly := by rw [withDownload_eq]
theorem withDownload_download (y : YModule) (bd rp : String) (m : Module) : (withDownload y bd rp m).download = y.download := by rw [withDownload_eq]
theorem withDownload_definedIn (y : YModule) (bd rp : String) (m : Module) : (withDownload y bd rp m).definedIn = m.definedIn := by rw [withDownload_eq]
theorem withDownload_relpath (y : YModule) (bd rp : String) (m : Module) : (withDownload y bd rp m).relpath = m.relpath := by rw [withDownload_eq]
theorem withDownload_srcdir (y : YModule) (bd rp : String) (m : Module) : (withDownload y bd rp m).srcdir = m.srcdir := by rw [withDownload_eq]
theorem withDownload_buildDepFiles (y : YModule) (bd rp : String) (m : Module) : (withDownload y bd rp m).buildDepFiles = buildDepFilesOf y bd rp m := by rw [withDownload_eq]
theorem withDownload_isBuildDep (y : YModule) (bd rp : String) (m : Module) : (withDownload y bd rp m).isBuildDep = (y.download.isSome || m.isBuildDep) := by rw [withDownload_eq]
theorem withDownload_isGlobalBuildDep (y : YModule) (bd rp : String) (m : Module) : (withDownload y bd rp m).isGlobalBuildDep = m.isGlobalBuildDep := by rw [withDownload_eq]
theorem withDownload_isBinary (y : YModule) (bd rp : String) (m : Module) : (withDownload y bd rp m).isBinary = m.isBinary := by rw [withDownload_eq]
theorem withBuildFlags_name (y : YModule) (m : Module) : (withBuildFlags y m).name = m.name := by unfold withBuildFlags; rfl
theorem withBuildFlags_contextName (y : YModule) (m : Module) : (withBuildFlags y m).contextName = m.contextName := by unfold withBuildFlags; rfl
theorem withBuildFlags_selects (y : YModule) (m : Module) : (withBuildFlags y m).selects = m.selects := by unfold withBuildFlags; rfl
theorem withBuildFlags_imports (y : YModule) (m : Module) : (withBuildFlags y m).imports = m.imports := by unfold withBuildFlags; rfl
theorem withBuildFlags_provides (y : YModule) (m : Module) : (withBuildFlags y m).provides = m.provides := by unfold withBuildFlags; rfl
theorem withBuildFlags_conflicts (y : YModule) (m : Module) : (withBuildFlags y m).conflicts = m.conflicts := by unfold withBuildFlags; rfl
theorem withBuildFlags_notifyAll (y : YModule) (m : Module) : (withBuildFlags y m).notifyAll = m.notifyAll := by unfold withBuildFlags; rfl
theorem withBuildFlags_blocklist (y : YModule) (m : Module) : (withBuildFlags y m).blocklist = m.blocklist := by unfold withBuildFlags; rfl
theorem withBuildFlags_allowlist (y : YModule) (m : Module) : (withBuildFlags y m).allowlist = m.allowlist := by unfold withBuildFlags; rfl
theorem withBuildFlags_sources (y : YModule) (m : Module) : (withBuildFlags y m).sources = m.sources := by unfold withBuildFlags; rfl
theorem withBuildFlags_sourcesOptional (y : YModule) (m : Module) : (withBuildFlags y m).sourcesOptional = m.sourcesOptional := by unfold withBuildFlags; rfl
theorem withBuildFlags_tasks (y : YModule) (m : Module) : (withBuildFlags y m).tasks = m.tasks := by unfold withBuildFlags; rfl
theorem withBuildFlags_build (y : YModule) (m : Module) : (withBuildFlags y m).build = y.build := by unfold withBuildFlags; rfl
theorem withBuildFlags_envLocal (y : YModule) (m : Module) : (withBuildFlags y m).envLocal = m.envLocal := by unfold withBuildFlags; rfl
theorem withBuildFlags_envExport (y : YModule) (m : Module) : (withBuildFlags y m).envExport = m.envExport := by unfold withBuildFlags; rfl
theorem withBuildFlags_envGlobal (y : YModule) (m : Module) : (withBuildFlags y m).envGlobal = m.envGlobal := by unfold withBuildFlags; rfl
theorem withBuildFlags_envEarly (y : YModule) (m : Module) : (withBuildFlags y m).envEarly = m.envEarly := by unfold withBuildFlags; rfl
theorem withBuildFlags_download (y : YModule) (m : Module) : (withBuildFlags y m).download = m.download := by unfold withBuildFlags; rfl
theorem withBuildFlags_definedIn (y : YModule) (m : Module) : (withBuildFlags y m).definedIn = m.definedIn := by unfold withBuildFlags; rfl
theorem withBuildFlags_relpath (y : YModule) (m : Module) : (withBuildFlags y m).relpath = m.relpath := by unfold withBuildFlags; rfl
theorem withBuildFlags_srcdir (y : YModule) (m : Module) : (withBuildFlags y m).srcdir = m.srcdir := by unfold withBuildFlags; rfl
theorem withBuildFlags_buildDepFiles (y : YModule) (m : Module) : (withBuildFlags y m).buildDepFiles = m.buildDepFiles := by unfold withBuildFlags; rfl
theorem withBuildFlags_isBuildDep (y : YModule) (m : Module) : (withBuildFlags y m).isBuildDep = (if y.download.isNone then y.isBuildDep else m.isBuildDep) := by unfold withBuildFlags; rfl
theorem withBuildFlags_isGlobalBuildDep (y : YModule) (m : Module) : (withBuildFlags y m).isGlobalBuildDep = y.isGlobalBuildDep := by unfold withBuildFlags; rfl
theorem withBuildFlags_isBinary (y : YModule) (m : Module) : (withBuildFlags y m).isBinary = m.isBinary := by unfold withBuildFlags; rfl
theorem withSrcdir_name (y : YModule) (bd rp : String) (m : Module) : (withSrcdir y bd rp m).name = m.name := by unfold withSrcdir; rfl
theorem withSrcdir_contextName (y : YModule) (bd rp : String) (m : Module) : (withSrcdir y bd rp m).contextName = m.contextName := by unfold withSrcdir; rfl
theorem withSrcdir_selects (y : YModule) (bd rp : String) (m : Module) : (withSrcdir y bd rp m).selects = m.selects := by unfold withSrcdir; rfl
theorem withSrcdir_imports (y : YModule) (bd rp : String) (m : Module) : (withSrcdir y bd rp m).imports = m.imports := by unfold withSrcdir; rfl
theorem withSrcdir_provides (y : YModule) (bd rp : String) (m : Module) : (withSrcdir y bd rp m).provides = m.provides := by unfold withSrcdir; rfl
theorem withSrcdir_conflicts (y : YModule) (bd rp : String) (m : Module) : (withSrcdir y bd rp m).conflicts = m.conflicts := by unfold withSrcdir; rfl
theorem withSrcdir_notifyAll (y : YModule) (bd rp : String) (m : Module) : (withSrcdir y bd rp m).notifyAll = m.notifyAll := by unfold withSrcdir; rfl
theorem withSrcdir_blocklist (y : YModule) (bd rp : String) (m : Module) : (withSrcdir y bd rp m).blocklist = m.blocklist := by unfold withSrcdir; rfl
theorem withSrcdir_allowlist (y : YModule) (bd rp : String) (m : Module) : (withSrcdir y bd rp m).allowlist = m.allowlist := by unfold withSrcdir; rfl
theorem withSrcdir_sources (y : YModule) (bd rp : String) (m : Module) : (withSrcdir y bd rp m).sources = m.sources := by unfold withSrcdir; rfl
theorem withSrcdir_sourcesOptional (y : YModule) (bd rp : String) (m : Module) : (withSrcdir y bd rp m).sourcesOptional = m.sourcesOptional := by unfold withSrcdir; rfl
theorem withSrcdir_tasks (y : YModule) (bd rp : String) (m : Module) : (withSrcdir y bd rp m).tasks = m.tasks := by unfold withSrcdir; rfl
theorem withSrcdir_build (y : YModule) (bd rp : String) (m : Module) : (withSrcdir y bd rp m).build = m.build := by unfold withSrcdir; rfl
theorem withSrcdir_envLocal (y : YModule) (bd rp : String) (m : Module) : (withSrcdir y bd rp m).envLocal = m.envLocal := by unfold withSrcdir; rfl
theorem withSrcdir_envExport (y : YModule) (bd rp : String) (m : Module) : (withSrcdir y bd rp m).envExport = m.envExport := by unfold withSrcdir; rfl
theorem withSrcdir_envGlobal (y : YModule) (bd rp : String) (m : Module) : (withSrcdir y bd rp m).envGlobal = m.envGlobal := by unfold withSrcdir; rfl
theorem withSrcdir_envEarly (y : YModule) (bd rp : String) (m : Module) : (withSrcdir y bd rp m).envEarly = m.envEarly := by unfold withSrcdir; rfl
theorem withSrcdir_download (y : YModule) (bd rp : String) (m : Module) : (withSrcdir y bd rp m).download = m.download := by unfold withSrcdir; rfl
theorem withSrcdir_definedIn (y : YModule) (bd rp : String) (m : Module) : (withSrcdir y bd rp m).definedIn = m.definedIn := by unfold withSrcdir; rfl
theorem withSrcdir_relpath (y : YModule) (bd rp : String) (m : Module) : (withSrcdir y bd rp m).relpath = m.relpath := by unfold withSrcdir; rfl
theorem withSrcdir_srcdir (y : YModule) (bd rp : String) (m : Module) : (withSrcdir y bd rp m).srcdir = some (y.srcdir.getD (defaultSrcdir y bd rp m.name)) := by unfold withSrcdir; rfl
theorem withSrcdir_buildDepFiles (y : YModule) (bd rp : String) (m : Module) : (withSrcdir y bd rp m).buildDepFiles = m.buildDepFiles := by unfold withSrcdir; rfl
theorem withSrcdir_isBuildDep (y : YModule) (bd rp : String) (m : Module) : (withSrcdir y bd rp m).isBuildDep = m.isBuildDep := by unfold withSrcdir; rfl
theorem withSrcdir_isGlobalBuildDep (y : YModule) (bd rp : String) (m : Module) : (withSrcdir y bd rp m).isGlobalBuildDep = m.isGlobalBuildDep := by unfold withSrcdir; rfl
theorem withSrcdir_isBinary (y : YModule) (bd rp : String) (m : Module) : (withSrcdir y bd rp m).isBinary = m.isBinary := by unfold withSrcdir; rfl
theorem withEarlyEnv_name (rp : String) (m : Module) : (withEarlyEnv rp m).name = m.name := by unfold withEarlyEnv; rfl
theorem withEarlyEnv_contextName (rp : String) (m : Module) : (withEarlyEnv rp m).contextName = m.contextName := by unfold withEarlyEnv; rfl
theorem withEarlyEnv_selects (rp : String) (m : Module) : (withEarlyEnv rp m).selects = m.selects := by unfold withEarlyEnv; rfl
theorem withEarlyEnv_imports (rp : String) (m : Module) : (withEarlyEnv rp m).imports = m.imports := by unfold withEarlyEnv; rfl
theorem withEarlyEnv_provides (rp : String) (m : Module) : (withEarlyEnv rp m).provides = m.provides := by unfold withEarlyEnv; rfl
theorem withEarlyEnv_conflicts (rp : String) (m : Module) : (withEarlyEnv rp m).conflicts = m.conflicts := by unfold withEarlyEnv; rfl
theorem withEarlyEnv_notifyAll (rp : String) (m : Module) : (withEarlyEnv rp m).notifyAll = m.notifyAll := by unfold withEarlyEnv; rfl
theorem withEarlyEnv_blocklist (rp : String) (m : Module) : (withEarlyEnv rp m).blocklist = m.blocklist := by unfold withEarlyEnv; rfl
theorem withEarlyEnv_allowlist (rp : String) (m : Module) : (withEarlyEnv rp m).allowlist = m.allowlist := by unfold withEarlyEnv; rfl
theorem withEarlyEnv_sources (rp : String) (m : Module) : (withEarlyEnv rp m).sources = m.sources := by unfold withEarlyEnv; rfl
theorem withEarlyEnv_sourcesOptional (rp : String) (m : Module) : (withEarlyEnv rp m).sourcesOptional = m.sourcesOptional := by unfold withEarlyEnv; rfl
theorem withEarlyEnv_tasks (rp : String) (m : Module) : (withEarlyEnv rp m).tasks = m.tasks := by unfold withEarlyEnv; rfl
theorem withEarlyEnv_build (rp : String) (m : Module) : (withEarlyEnv rp m).build = m.build := by unfold withEarlyEnv; rfl
theorem withEarlyEnv_envLocal (rp : String) (m : Module) : (withEarlyEnv rp m).envLocal = m.envLocal := by unfold withEarlyEnv; rfl
theorem withEarlyEnv_envExport (rp : String) (m : Module) : (withEarlyEnv rp m).envExport = m.envExport := by unfold withEarlyEnv; rfl
theorem withEarlyEnv_envGlobal (rp : String) (m : Module) : (withEarlyEnv rp m).envGlobal = m.envGlobal := by unfold withEarlyEnv; rfl
theorem withEarlyEnv_envEarly (rp : String) (m : Module) : (withEarlyEnv rp m).envEarly = ((m.envEarly.insert "relpath" (.single rp)).insert "root" (.single ".")).insert "srcdir" (.single (m.srcdir.getD "")) := by rw [withEarlyEnv]
theorem withEarlyEnv_download (rp : String) (m : Module) : (withEarlyEnv rp m).download = m.download := by unfold withEarlyEnv; rfl
theorem withEarlyEnv_definedIn (rp : String) (m : Module) : (withEarlyEnv rp m).definedIn = m.definedIn := by unfold withEarlyEnv; rfl
theorem withEarlyEnv_relpath (rp : String) (m : Module) : (withEarlyEnv rp m).relpath = m.relpath := by unfold withEarlyEnv; rfl
theorem withEarlyEnv_srcdir (rp : String) (m : Module) : (withEarlyEnv rp m).srcdir = m.srcdir := by unfold withEarlyEnv; rfl
theorem withEarlyEnv_buildDepFiles (rp : String) (m : Module) : (withEarlyEnv rp m).buildDepFiles = m.buildDepFiles := by unfold withEarlyEnv; rfl
theorem withEarlyEnv_isBuildDep (rp : String) (m : Module) : (withEarlyEnv rp m).isBuildDep = m.isBuildDep := by unfold withEarlyEnv; rfl
theorem withEarlyEnv_isGlobalBuildDep (rp : String) (m : Module) : (withEarlyEnv rp m).isGlobalBuildDep = m.isGlobalBuildDep := by unfold withEarlyEnv; rfl
theorem withEarlyEnv_isBinary (rp : String) (m : Module) : (withEarlyEnv rp m).isBinary = m.isBinary := by unfold withEarlyEnv; rfl
end Steps

end Laze.C17
