import LazeModel.Lemmas.Resolver
/-! C12 — order: the selected list grows by appending, stays duplicate free, app first.
    `Grow` holds from the state before to the state after every successful resolution
    (`grow_closed`); the rest is read off it. -/
namespace Laze.C12
open Laze

structure Grow (s s' : RState) : Prop where
  ext : ∃ l, s'.sel = s.sel ++ l
  nodup : s.sel.Nodup → s'.sel.Nodup

theorem Grow.of_sel_eq {s s' : RState} (h : s'.sel = s.sel) : Grow s s' :=
  ⟨⟨[], by simp [h]⟩, fun hn => by rw [h]; exact hn⟩

theorem Grow.refl (s : RState) : Grow s s := .of_sel_eq rfl

theorem Grow.trans {a b c : RState} (h1 : Grow a b) (h2 : Grow b c) : Grow a c := by
  obtain ⟨l1, e1⟩ := h1.ext
  obtain ⟨l2, e2⟩ := h2.ext
  exact ⟨⟨l1 ++ l2, by rw [e2, e1, List.append_assoc]⟩, fun h => h2.nodup (h1.nodup h)⟩

theorem Grow.mem {s s' : RState} (h : Grow s s') {n : Name} (hn : s.isSel n = true) :
    s'.isSel n = true := by
  obtain ⟨l, e⟩ := h.ext
  rw [RState.isSel_iff] at hn ⊢
  rw [e]; exact List.mem_append_left _ hn

theorem grow_closed (w : World) : StepClosed w (fun _ => True) Grow :=
  .of_enter (fun _ => trivial) Grow.refl Grow.trans (fun _ _ => Grow.of_sel_eq rfl)
    -- `enter` appends the module's name, which was not selected
    (fun _ hs he => ⟨⟨_, enter_sel he⟩, fun hn => by
      rw [enter_sel he]; exact List.nodup_snoc.2 ⟨hn, RState.isSel_eq_false.1 hs⟩⟩)

theorem sel_appends (w : World) (fuel : Nat) (m : Mod) (s s' : RState)
    (h : resolveDeep w fuel m s = .ok s') : ∃ l, s'.sel = s.sel ++ l :=
  ((grow_closed w).deep fuel trivial h).ext

theorem sel_nodup (w : World) (fuel : Nat) (m : Mod) (s s' : RState)
    (h : resolveDeep w fuel m s = .ok s') (hn : s.sel.Nodup) : s'.sel.Nodup :=
  ((grow_closed w).deep fuel trivial h).nodup hn

theorem sel_self (w : World) (fuel : Nat) (m : Mod) (s s' : RState)
    (h : resolveDeep w fuel m s = .ok s') : s'.isSel m.name = true :=
  resolveDeep_isSel h

theorem deps_sel_appends (w : World) (fuel : Nat) (ds : List Dep) (s s' : RState)
    (h : resolveDepsW w (resolveDeep w fuel) ds s = .ok s') :
    (∃ l, s'.sel = s.sel ++ l) ∧ (s.sel.Nodup → s'.sel.Nodup) :=
  let g := (grow_closed w).deepDeps fuel ds h
  ⟨g.ext, g.nodup⟩

/-- a module not yet selected is appended right where it is reached, its dependencies follow -/
theorem first_reach (w : World) (fuel : Nat) (m : Mod) (s s' : RState)
    (hns : s.isSel m.name = false) (h : resolveDeep w fuel m s = .ok s') :
    ∃ l, s'.sel = s.sel ++ m.name :: l := by
  cases fuel with
  | zero => cases h
  | succ f =>
    obtain ⟨s1, he, hds⟩ := resolveDeepStep_ok hns h
    obtain ⟨l, e⟩ := ((grow_closed w).deepDeps f _ hds).ext
    exact ⟨l, by rw [e, enter_sel he, List.append_assoc]; rfl⟩

/-- a module that was already reached is not visited again: nothing changes -/
theorem second_reach (w : World) (fuel : Nat) (m : Mod) (s : RState)
    (hs : s.isSel m.name = true) : resolveDeep w (fuel+1) m s = .ok s :=
  resolveDeepStep_selected hs

/-- the top-level call puts the app first, and the module list has no duplicates -/
theorem app_first (w : World) (fuel : Nat) (app : Mod) (s0 r : RState)
    (h0 : s0.sel = []) (h : resolveDeep w fuel app s0 = .ok r) :
    r.sel.head? = some app.name ∧ r.sel.Nodup := by
  obtain ⟨l, e⟩ := first_reach w fuel app s0 r (RState.isSel_nil h0 _) h
  exact ⟨by rw [e, h0]; rfl, sel_nodup w fuel app s0 r h (by rw [h0]; exact List.nodup_nil)⟩

theorem resolveTop_app_first (b : Bag) (builder : Name) (app : Module) (cli : Cli) (r : RState)
    (h : resolveTop b builder app cli = .ok r) : r.sel.head? = some app.name ∧ r.sel.Nodup :=
  app_first _ _ _ _ r rfl h

end Laze.C12
