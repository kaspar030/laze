import LazeModel.Model.Insights
import LazeModel.Theorems.C19_order
import LazeModel.Lemmas.GenSpec
/-! # C09 (info export) — what `laze build --info-export` writes

The property names the info-export file next to the ninja file. `Model/Insights.lean` states it as a function of the same
inputs as `generate` (so it cannot depend on schedules or hash seeds — what remains is the order of an `IndexMap`, which is
part of the comparison with the implementation). Proved here, for every project and command line:

* `insight_iff_built`   a (builder, app) tuple has a record iff that tuple is configured, and (`insight_fields`) the record's
                        `outfile` is the configured build's output file;
* `moduleInfo_keys`     the `modules` map of a record has exactly one key per module of the build order, in build order;
* `moduleInfo_deps`     the `deps` of a key are the names the module's `selects` refer to (`Dependency::get_name`);
* `insight_modules_perm` so the keys are a permutation of the build's selected modules (`BuildInfo.modules`);
* `insightsOf_last`     grouping by builder then app: the record written LAST for a (builder, app name) is the one found
                        (`IndexMap::insert` replaces), whatever was written before. -/
namespace Laze.C09i
open Laze

/-! ## the record of a configured build -/

theorem insightOfTuple_ok {ev st b cli} {c : Context} {m : Module} {x : Insight}
    (h : insightOfTuple ev st b cli c m = some x) : ∃ i, configureBuild ev st b c.name m cli = .ok (.build i) := by
  unfold insightOfTuple at h
  split at h
  · rename_i i hi
    exact ⟨i, hi⟩
  · cases h

theorem insightOfTuple_built {ev st b cli} {c : Context} {m : Module} {i : BuildInfo}
    (hi : configureBuild ev st b c.name m cli = .ok (.build i)) :
    ∃ rs, ∃ k : Configured ev st b c.name m cli (resolvedOf b c.name (appClone m c.name cli) rs), i = k.info ∧
      insightOfTuple ev st b cli c m = some
        { builder := c.name, app := m.name, outfile := i.out,
          modules := moduleInfoOf (resolvedOf b c.name (appClone m c.name cli) rs) k.order } := by
  obtain ⟨rs, hrs, k, rfl⟩ := configureBuild_build hi
  refine ⟨rs, k, rfl, ?_⟩
  simp only [insightOfTuple, hi, hrs, insightOfResolved, buildOrderOf, k.envs, k.ordered, Option.map_some]

/-- **a record iff configured**; that it carries the configured build's output file is `insight_fields` -/
theorem insight_iff_built {ev st b cli} {c : Context} {m : Module} :
    (∃ x, insightOfTuple ev st b cli c m = some x) ↔ ∃ i, configureBuild ev st b c.name m cli = .ok (.build i) := by
  constructor
  · rintro ⟨x, hx⟩
    exact insightOfTuple_ok hx
  · rintro ⟨i, hi⟩
    obtain ⟨_, _, _, h⟩ := insightOfTuple_built hi
    exact ⟨_, h⟩

theorem insight_fields {ev st b cli} {c : Context} {m : Module} {x : Insight}
    (h : insightOfTuple ev st b cli c m = some x) :
    x.builder = c.name ∧ x.app = m.name ∧
      ∃ i, configureBuild ev st b c.name m cli = .ok (.build i) ∧ x.outfile = i.out := by
  obtain ⟨i, hi⟩ := insightOfTuple_ok h
  obtain ⟨_, _, _, hx⟩ := insightOfTuple_built hi
  obtain rfl := Option.some.inj (h.symm.trans hx)
  exact ⟨rfl, rfl, i, hi, rfl⟩

/-! ## `module_info` -/

theorem insertKeyed_keys_mem {α} (acc : List (String × α)) (k : String) (v : α) (hk : k ∈ acc.map (·.1)) :
    (insertKeyed acc k v).map (·.1) = acc.map (·.1) := by
  rw [C09.insertKeyed_keys, setAdd, if_pos (List.contains_iff_mem.2 hk)]

theorem moduleInfo_keys_eq (r : Resolved) (order : List Name) (acc : List (Name × List Name)) :
    (order.foldl (fun acc n => match r.module? n with
      | some m => insertKeyed acc n (moduleDeps m)
      | none => acc) acc).map (·.1) = (order.filter r.has).foldl setAdd (acc.map (·.1)) := by
  induction order generalizing acc with
  | nil => rfl
  | cons n ns ih =>
    have hn : r.has n = (r.module? n).isSome := List.isSome_find?.symm
    rw [List.foldl_cons, ih, List.filter_cons, hn]
    cases r.module? n with
    | none => rfl
    | some m =>
      show List.foldl setAdd ((insertKeyed acc n (moduleDeps m)).map (·.1)) _ =
        List.foldl setAdd (setAdd (acc.map (·.1)) n) _
      rw [C09.insertKeyed_keys]

/-- **one key per module of the build order, in build order** -/
theorem moduleInfo_keys (r : Resolved) (order : List Name) (hnd : order.Nodup) (hsel : ∀ n ∈ order, r.has n = true) :
    (moduleInfoOf r order).map (·.1) = order := by
  refine (moduleInfo_keys_eq r order []).trans ?_
  rw [List.filter_eq_self.2 hsel]
  exact foldl_setAdd_of_nodup order [] hnd

theorem insertKeyed_mem {α} {acc : List (String × α)} {k : String} {v : α} {q : String × α}
    (h : q ∈ insertKeyed acc k v) : q ∈ acc ∨ q = (k, v) := by
  unfold insertKeyed at h
  split at h
  · obtain ⟨p, hp, rfl⟩ := List.mem_map.1 h
    split
    · exact .inr rfl
    · exact .inl hp
  · exact (List.mem_append.1 h).imp_right List.mem_singleton.1

/-- **the deps of a key are the names its module's `selects` refer to** -/
theorem moduleInfo_deps (r : Resolved) (order : List Name) {n : Name} {deps : List Name}
    (h : (n, deps) ∈ moduleInfoOf r order) :
    ∃ m, r.module? n = some m ∧ deps = m.selects.map Dep.name := by
  unfold moduleInfoOf at h
  refine List.foldlRecOn order _
    (motive := fun acc => (n, deps) ∈ acc → ∃ m, r.module? n = some m ∧ deps = m.selects.map Dep.name)
    (fun h => absurd h List.not_mem_nil) (fun acc ih k _ h => ?_) h
  cases hk : r.module? k with
  | none => rw [hk] at h; exact ih h
  | some m =>
    rw [hk] at h
    rcases insertKeyed_mem h with h | h
    · exact ih h
    · cases h
      exact ⟨m, hk, rfl⟩

/-! ## the record of a configured build lists its selected modules -/

/-- the recorded module names of a configured build: a permutation of `BuildInfo.modules` (hypotheses as in
    `C19.buildOrder_perm`: distinct, real module names — `sel_nodup` (C12) gives the first for every resolver run) -/
theorem insight_modules_perm {ev st b cli} {c : Context} {m : Module} {x : Insight} {i : BuildInfo}
    (hx : insightOfTuple ev st b cli c m = some x)
    (hi : configureBuild ev st b c.name m cli = .ok (.build i))
    (hnd : i.modules.Nodup) (hreal : ∀ n ∈ i.modules, isRealNode n = true) :
    (x.modules.map (·.1)).Perm i.modules := by
  obtain ⟨rs, k, rfl, hx'⟩ := insightOfTuple_built hi
  obtain rfl := Option.some.inj (hx.symm.trans hx')
  -- from here on the selection is any `R` the build was configured from
  generalize resolvedOf b c.name (appClone m c.name cli) rs = R at k
  have hm := k.envs
  have himods : k.info.modules = R.modules.map (·.name) := rfl
  have hperm : k.order.Perm k.info.modules := by
    rw [himods, ← C19.moduleEnvs_names hm] at hnd hreal ⊢
    exact C19.buildOrder_perm k.ordered hnd (fun mb hmb => hreal _ (List.mem_map_of_mem hmb)) (C19.moduleEnvs_closed hm)
  show ((moduleInfoOf R k.order).map (·.1)).Perm k.info.modules
  rw [moduleInfo_keys R k.order (hperm.nodup_iff.2 hnd)]
  · exact hperm
  · intro n hn
    obtain ⟨y, hy, rfl⟩ := List.mem_map.1 (himods ▸ hperm.subset hn)
    exact List.any_eq_true.2 ⟨y, hy, beq_self_eq_true _⟩

/-! ## grouping: `Insights::from_builds` -/

def lookup (l : List (Name × List (Name × Insight))) (builder app : Name) : Option Insight :=
  ((l.find? (·.1 == builder)).bind (fun p => p.2.find? (·.1 == app))).map (·.2)

theorem lookup_eq_lk (l : List (Name × List (Name × Insight))) (builder app : Name) :
    lookup l builder app = (C09.lk l builder).bind (C09.lk · app) := by
  unfold lookup C09.lk
  cases l.find? (·.1 == builder) <;> rfl

/-- **last write wins**: after the record `x` is written, looking up (`x.builder`, `x.app`) finds `x` -/
theorem insightsOf_last (l : List Insight) (x : Insight) :
    lookup (insightsOf (l ++ [x])) x.builder x.app = some x := by
  unfold insightsOf
  rw [List.foldl_append, List.foldl_cons, List.foldl_nil, lookup_eq_lk]
  generalize List.foldl insertInsight [] l = acc
  unfold insertInsight
  cases hf : acc.find? (·.1 == x.builder) with
  | some p =>
    dsimp only
    rw [C09.lk_insertKeyed, if_pos rfl, Option.bind_some, C09.lk_insertKeyed, if_pos rfl]
  | none =>
    have hacc : C09.lk acc x.builder = none := congrArg (Option.map Prod.snd) hf
    dsimp only
    rw [C09.lk_append, hacc, Option.none_or, C09.lk_cons, if_pos rfl, Option.bind_some, C09.lk_cons, if_pos rfl]

/-- non-vacuity / behaviour on a concrete list: two builders, an app name written twice for one builder -/
def i1 : Insight := { builder := "b1", app := "a", outfile := "o1", modules := [] }
def i2 : Insight := { builder := "b2", app := "a", outfile := "o2", modules := [] }
def i3 : Insight := { builder := "b1", app := "z", outfile := "o3", modules := [("z", ["x"])] }
def i4 : Insight := { builder := "b1", app := "a", outfile := "o4", modules := [] }

example : insightsOf [i1, i2, i3, i4] = [("b1", [("a", i4), ("z", i3)]), ("b2", [("a", i2)])] := by decide +kernel
example : lookup (insightsOf [i1, i2, i3, i4]) "b1" "a" = some i4 := by decide +kernel
example : moduleInfoOf { modules := [{ name := "app", contextName := "c", selects := [.hard "m", .ifSoft "q" "n"] },
                                     { name := "m", contextName := "c" }], providers := [] } ["m", "app"]
    = [("m", []), ("app", ["m", "n"])] := by decide +kernel

end Laze.C09i
