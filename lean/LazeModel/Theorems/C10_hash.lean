import LazeModel.Theorems.C07_hash
/-! C10 — "the statements of one (builder, app) pair do not depend on what else was selected": a rule block is shared between
    builds under a name that is a hash of its content, so the closure of one build's output is independent of the other builds
    only if two rule blocks that print differently never get the same name. The source-level half — every field
    `impl Display for NinjaRule` prints is hashed by `impl Hash for NinjaRule` — is the translator obligation of `C07_hash.lean`,
    re-stated here so that C10's check fails when it does (a seeded change that dropped `pool` from the hash made the full run
    define `CC_<h>` twice while a single-builder run had one definition). -/
namespace Laze.C10hash
open Laze

theorem printed_rule_fields_are_hashed :
    Generated.rulePrinted.all (fun f => Generated.ruleHashed.any (fun h => h.1 == f)) = true :=
  C07hash.printed_fields_are_hashed

theorem rule_hash_fields_reviewed : Generated.ruleHashed = C07hash.reviewedHashed.map (·.1) :=
  C07hash.rule_hash_fields_reviewed

end Laze.C10hash
