import LazeModel.Theorems.C20
import LazeModel.Theorems.C09_perm
import LazeModel.Theorems.C12_grow
/-! C20, `-D V=x` / `-D V+=x`: how the assignment is parsed, where the CLI env enters the global env, and that defining `V`
    at the end of the app's global env gives the same value. -/
namespace Laze.C20
open Laze Laze.C09

/-! ## `-D`: parsing the assignment (`Env::assign_from_string`, `str::split_once`) -/

theorem splitOnce_cons_neg {pat : List Char} {c : Char} {tl : List Char}
    (h : ¬ (pat.isPrefixOf (c :: tl) = true)) :
    splitOnce pat (c :: tl) = (splitOnce pat tl).map (fun x => (c :: x.1, x.2)) := by
  rw [splitOnce, if_neg h]

theorem splitOnce_cons_pos {pat : List Char} {c : Char} {tl : List Char}
    (h : pat.isPrefixOf (c :: tl) = true) :
    splitOnce pat (c :: tl) = some ([], (c :: tl).drop pat.length) := by
  rw [splitOnce, if_pos h]

theorem occurrence_cons {pat : List Char} {c : Char} {tl a b : List Char}
    (hp : ¬ (pat.isPrefixOf (c :: tl) = true)) (e : c :: tl = a ++ pat ++ b) :
    ∃ a0, a = c :: a0 ∧ tl = a0 ++ pat ++ b := by
  cases a with
  | nil => exact absurd (List.isPrefixOf_iff_prefix.2 ⟨b, e.symm⟩) hp
  | cons c' a0 =>
    simp only [List.cons_append, List.cons.injEq] at e
    exact ⟨a0, by rw [e.1], e.2⟩

theorem splitOnce_some (pat : List Char) : ∀ (s a b : List Char), splitOnce pat s = some (a, b) →
    s = a ++ pat ++ b ∧ ∀ a' b', s = a' ++ pat ++ b' → a.length ≤ a'.length
  | [], a, b, h => by
    cases pat with
    | nil => cases h; exact ⟨rfl, fun _ _ _ => Nat.zero_le _⟩
    | cons => cases h
  | c :: tl, a, b, h => by
    by_cases hp : pat.isPrefixOf (c :: tl) = true
    · rw [splitOnce_cons_pos hp] at h
      cases h
      obtain ⟨t, ht⟩ := List.isPrefixOf_iff_prefix.1 hp
      exact ⟨by rw [← ht, List.drop_left]; rfl, fun _ _ _ => Nat.zero_le _⟩
    · rw [splitOnce_cons_neg hp] at h
      obtain ⟨⟨a0, b0⟩, hr, h⟩ := Option.map_eq_some_iff.1 h
      cases h
      obtain ⟨e, first⟩ := splitOnce_some pat tl a0 b0 hr
      refine ⟨by rw [e]; rfl, fun a' b' e' => ?_⟩
      obtain ⟨a1, rfl, e1⟩ := occurrence_cons hp e'
      exact Nat.succ_le_succ (first a1 b' e1)

theorem splitOnce_none (pat s : List Char) :
    splitOnce pat s = none ↔ ∀ a b, s ≠ a ++ pat ++ b := by
  refine ⟨fun h => ?_, fun h => ?_⟩
  · induction s with
    | nil =>
      intro a b e
      obtain ⟨hab, -⟩ := List.append_eq_nil_iff.1 e.symm
      obtain ⟨-, rfl⟩ := List.append_eq_nil_iff.1 hab
      cases h
    | cons c tl ih =>
      by_cases hp : pat.isPrefixOf (c :: tl) = true
      · rw [splitOnce_cons_pos hp] at h; cases h
      · rw [splitOnce_cons_neg hp, Option.map_eq_none_iff] at h
        intro a b e
        obtain ⟨a0, rfl, e0⟩ := occurrence_cons hp e
        exact ih h a0 b e0
  · cases hr : splitOnce pat s with
    | none => rfl
    | some ab => exact absurd (splitOnce_some pat s ab.1 ab.2 hr).1 (h ab.1 ab.2)

/-- the FIRST occurrence of the pattern is where `splitOnce` splits -/
theorem splitOnce_first (pat a b : List Char)
    (first : ∀ a' b', a ++ pat ++ b = a' ++ pat ++ b' → a.length ≤ a'.length) :
    splitOnce pat (a ++ pat ++ b) = some (a, b) := by
  cases hr : splitOnce pat (a ++ pat ++ b) with
  | none => exact absurd rfl ((splitOnce_none pat _).1 hr a b)
  | some ab =>
    obtain ⟨a0, b0⟩ := ab
    obtain ⟨e, f0⟩ := splitOnce_some pat _ a0 b0 hr
    have hlen : a.length = a0.length := Nat.le_antisymm (first a0 b0 e) (f0 a b rfl)
    rw [List.append_assoc, List.append_assoc] at e
    obtain ⟨e1, e2⟩ := List.append_inj e hlen
    rw [e1, List.append_cancel_left e2]

/-- the pattern's first character does not occur before the split point: it is the first occurrence -/
theorem splitOnce_at (p : Char) (ps a b : List Char) (h : p ∉ a) :
    splitOnce (p :: ps) (a ++ (p :: ps) ++ b) = some (a, b) :=
  splitOnce_first _ a b fun a' b' e => Nat.le_of_not_lt fun hlt => by
    -- `p` stands at index `a'.length`, which would lie inside `a`
    have hp : (a ++ (p :: ps) ++ b)[a'.length]? = some p := by
      rw [e, List.append_assoc, List.getElem?_append_right (Nat.le_refl _), Nat.sub_self]; rfl
    rw [List.append_assoc, List.getElem?_append_left hlt] at hp
    exact h (List.mem_of_getElem? hp)

theorem stripPlus_snoc (v : List Char) : stripPlus (v ++ ['+']) = some v := by
  unfold stripPlus
  rw [List.reverse_append]
  simp only [List.reverse_cons, List.reverse_nil, List.nil_append, List.cons_append,
    List.reverse_reverse]

theorem stripPlus_none (v : List Char) : stripPlus v = none ↔ v.getLast? ≠ some '+' := by
  unfold stripPlus
  rw [List.getLast?_eq_head?_reverse]
  cases v.reverse with
  | nil => simp
  | cons c r =>
    by_cases hc : c = '+'
    · subst hc; simp
    · simp only [List.head?_cons, ne_eq, Option.some.injEq, hc, not_false_eq_true, iff_true]
      split
      · rename_i h; injection h with h1 _; exact absurd h1 hc
      · rfl

/-- `-D V+=x` (no `=` in `V`): the list `[x]` is merged onto `V`, for EVERY `x`
    (`V` may contain or even end with `+`: only ONE trailing `+` is stripped) -/
theorem define_parse_append (e : Env) (V x : String) (hV : '=' ∉ V.toList) :
    Env.assignFromString e (V ++ "+=" ++ x) = some (e.merge [(V, .list [x])]) := by
  have hs : (V ++ "+=" ++ x).toList = (V.toList ++ ['+']) ++ ['='] ++ x.toList := by
    rw [String.toList_append, String.toList_append]
    show V.toList ++ ['+', '='] ++ x.toList = _
    simp
  have hV' : '=' ∉ V.toList ++ ['+'] := by
    simp only [List.mem_append, List.mem_singleton, not_or]
    exact ⟨hV, by decide⟩
  unfold Env.assignFromString
  rw [hs, splitOnce_at '=' [] _ _ hV']
  simp only [stripPlus_snoc, String.ofList_toList]

/-- `-D V=x` (no `=` in `V`, `V` does not end with `+`): the string `x` is merged onto `V`,
    for EVERY `x` (the first `=` separates variable and value) -/
theorem define_parse_single (e : Env) (V x : String) (hV1 : '=' ∉ V.toList)
    (hV2 : V.toList.getLast? ≠ some '+') :
    Env.assignFromString e (V ++ "=" ++ x) = some (e.merge [(V, .single x)]) := by
  have hs : (V ++ "=" ++ x).toList = V.toList ++ ['='] ++ x.toList := by
    rw [String.toList_append, String.toList_append]; rfl
  unfold Env.assignFromString
  rw [hs, splitOnce_at '=' [] _ _ hV1]
  simp only [(stripPlus_none _).2 hV2, String.ofList_toList]

/-- both hypotheses of `define_parse_single` are needed: with a `=` in `V` the split happens
    earlier, with a trailing `+` the assignment is an append (`define_parse_append`) -/
example : Env.assignFromString [] ("A=B" ++ "=" ++ "x") = some [("A", .single "B=x")] := by decide +kernel
example : Env.assignFromString [] ("V+" ++ "=" ++ "x") = some [("V", .list ["x"])] := by decide +kernel
/-- no hypothesis about `+` inside `V` is needed for the append form -/
example : Env.assignFromString [] ("V+" ++ "+=" ++ "x") = some [("V+", .list ["x"])] :=
  define_parse_append [] "V+" "x" (by decide)

theorem splitOnce_char_none (p : Char) (s : List Char) : splitOnce [p] s = none ↔ p ∉ s := by
  rw [splitOnce_none]
  constructor
  · intro h hm
    obtain ⟨a, b, e⟩ := List.append_of_mem hm
    exact h a b (by rw [e, List.append_assoc]; rfl)
  · intro h a b e
    exact h (by rw [e]; simp)

/-- an argument is rejected exactly when it contains no `=` -/
theorem define_parse_none (e : Env) (a : String) :
    Env.assignFromString e a = none ↔ '=' ∉ a.toList := by
  rw [← splitOnce_char_none]
  unfold Env.assignFromString
  cases splitOnce ['='] a.toList with
  | none => exact ⟨fun _ => rfl, fun _ => rfl⟩
  | some ab =>
    refine ⟨fun h => ?_, fun h => nomatch h⟩
    dsimp only at h
    split at h <;> cases h

/-- the former quirk is gone (the Rust `assign_from_string` now does `split_once('=')` first and
    `strip_suffix('+')` on the variable): `-D V=a+=b` defines `V` as `a+=b` -/
example : Env.assignFromString [] "V=a+=b" = some [("V", .single "a+=b")] :=
  define_parse_single [] "V" "a+=b" (by decide) (by decide)
example : Env.assignFromString [] "V=a+=b" = some (Env.merge [] [("V", .single "a+=b")]) := by decide +kernel

example : Env.assignFromString [("V", .list ["w"])] "V+=x" = some [("V", .list ["w", "x"])] :=
  define_parse_append _ "V" "x" (by decide)
example : Env.assignFromString [("V", .list ["w"])] "V=x" = some [("V", .single "x")] :=
  define_parse_single _ "V" "x" (by decide) (by decide)
example : Env.assignFromString [] "V" = none := by decide +kernel
example : splitOnce ['='] "a=b=c".toList = some (['a'], "b=c".toList) := by decide +kernel

/-- what `-D V=x` / `-D V+=x` alone make of the (initially empty) CLI env -/
theorem cli_env_single (V x : String) (hV1 : '=' ∉ V.toList) (hV2 : V.toList.getLast? ≠ some '+') :
    Env.assignFromString [] (V ++ "=" ++ x) = some [(V, .single x)] :=
  define_parse_single [] V x hV1 hV2

theorem cli_env_append (V x : String) (hV : '=' ∉ V.toList) :
    Env.assignFromString [] (V ++ "+=" ++ x) = some [(V, .list [x])] :=
  define_parse_append [] V x hV

/-! ## `-D`: where the CLI env enters the global env -/

/-- the variables `configure_build` sets itself after the module envs are merged -/
def reserved : List String := ["relpath", "relroot", "modules", "contexts"]

/-- the global env before the app's own global env is merged: laze's variables, the builder
    context's env, then the global envs of the other selected modules (in reverse selection order) -/
def preAppEnv (st : Settings) (b : Bag) (builder : Name) (app : Module) (rest : List Module) : Env :=
  rest.reverse.foldl (fun g m => g.merge m.envGlobal)
    ((lazeEnv st).merge
      (((((b.ctx? builder).bind (·.env)).getD []).insert "builder" (.single builder)).insert "app"
        (.single app.name)))

/-- the CLI env is merged LAST -/
theorem define_cli_last (st : Settings) (b : Bag) (builder : Name) (app : Module) (r : Resolved)
    (cli : Cli) (ce : Env) (hce : Env.WF ce) (k : String) :
    (globalEnv st b builder app r { cli with env := some ce }).get k =
      mergeOpt ((globalEnv st b builder app r { cli with env := none }).get k) (ce.get k) := by
  unfold globalEnv
  exact merge_get _ ce hce k

/-- the app (first in selection order) is the LAST module whose global env is merged, and only the
    four reserved variables are set after it -/
theorem globalEnv_get_app (st : Settings) (b : Bag) (builder : Name) (app : Module) (r : Resolved)
    (cli : Cli) (app' : Module) (rest : List Module) (hr : r.modules = app' :: rest)
    (hwf : Env.WF app'.envGlobal) (k : String) (hk : k ∉ reserved) :
    (globalEnv st b builder app r { cli with env := none }).get k =
      mergeOpt ((preAppEnv st b builder app rest).get k) (app'.envGlobal.get k) := by
  simp only [reserved, List.mem_cons, List.not_mem_nil, or_false, not_or] at hk
  unfold globalEnv preAppEnv
  simp only [insert_get, if_neg hk.1, if_neg hk.2.1, if_neg hk.2.2.1, if_neg hk.2.2.2]
  rw [hr, List.reverse_cons, List.foldl_append, List.foldl_cons, List.foldl_nil]
  exact merge_get _ _ hwf k

/-- the in-file counterpart of `-D`: the assignments merged at the end of the app's global env -/
def withAppEnv (r : Resolved) (app' : Module) (rest : List Module) (ce : Env) : Resolved :=
  { r with modules := { app' with envGlobal := app'.envGlobal.merge ce } :: rest }

/-- C20 (define), on lookups in the global env: for every variable `k` that is not one of the four
    reserved ones, `-D` assignments `ce` give the same value as `ce` merged at the end of the
    app's own global env, UNLESS the variable is a list before the app's env, a plain string in
    the app's env and appended to (`+=`) by `ce` (then `-D` gives the appended list only, the
    in-file spelling appends to the earlier list). -/
theorem define_equiv (st : Settings) (b : Bag) (builder : Name) (app : Module) (r : Resolved)
    (cli : Cli) (app' : Module) (rest : List Module) (hr : r.modules = app' :: rest)
    (hwf : Env.WF app'.envGlobal) (ce : Env) (hce : Env.WF ce) (k : String) (hk : k ∉ reserved)
    (hassoc : ¬ ∃ a s c, (preAppEnv st b builder app rest).get k = some (.list a) ∧
      app'.envGlobal.get k = some (.single s) ∧ ce.get k = some (.list c)) :
    (globalEnv st b builder app r { cli with env := some ce }).get k =
      (globalEnv st b builder app (withAppEnv r app' rest ce) { cli with env := none }).get k := by
  rw [define_cli_last st b builder app r cli ce hce,
    globalEnv_get_app st b builder app r cli app' rest hr hwf k hk,
    globalEnv_get_app st b builder app (withAppEnv r app' rest ce) cli _ rest rfl
      (merge_wf hwf ce) k hk]
  simp only [merge_get _ ce hce]
  exact mergeOpt_assoc _ _ _ hassoc

/-- `-D V=v`: for EVERY non-reserved variable the two spellings agree, and `V` is `v` -/
theorem define_equiv_single (st : Settings) (b : Bag) (builder : Name) (app : Module) (r : Resolved)
    (cli : Cli) (app' : Module) (rest : List Module) (hr : r.modules = app' :: rest)
    (hwf : Env.WF app'.envGlobal) (V v : String) (k : String) (hk : k ∉ reserved) :
    (globalEnv st b builder app r { cli with env := some [(V, .single v)] }).get k =
      (globalEnv st b builder app (withAppEnv r app' rest [(V, .single v)])
        { cli with env := none }).get k ∧
    (k = V → (globalEnv st b builder app r { cli with env := some [(V, .single v)] }).get k =
      some (.single v)) := by
  have hce : Env.WF [(V, EnvKey.single v)] := by simp [Env.WF]
  refine ⟨define_equiv st b builder app r cli app' rest hr hwf _ hce k hk ?_, fun hkV => ?_⟩
  · rintro ⟨a, s, c, _, _, h3⟩
    rw [get_eq_lk, lk_cons] at h3
    split at h3 <;> cases h3
  · subst hkV
    rw [define_cli_last st b builder app r cli _ hce, get_eq_lk [(k, EnvKey.single v)], lk_cons,
      if_pos rfl, mergeOpt_single]

/-- `-D V+=x` when the app's own global env does not define `V`: for every non-reserved variable
    the two spellings agree -/
theorem define_equiv_list (st : Settings) (b : Bag) (builder : Name) (app : Module) (r : Resolved)
    (cli : Cli) (app' : Module) (rest : List Module) (hr : r.modules = app' :: rest)
    (hwf : Env.WF app'.envGlobal) (V x : String) (hV : app'.envGlobal.get V = none)
    (k : String) (hk : k ∉ reserved) :
    (globalEnv st b builder app r { cli with env := some [(V, .list [x])] }).get k =
      (globalEnv st b builder app (withAppEnv r app' rest [(V, .list [x])])
        { cli with env := none }).get k := by
  have hce : Env.WF [(V, EnvKey.list [x])] := by simp [Env.WF]
  refine define_equiv st b builder app r cli app' rest hr hwf _ hce k hk ?_
  rintro ⟨a, s, c, _, h2, h3⟩
  rw [get_eq_lk [(V, EnvKey.list [x])], lk_cons] at h3
  split at h3
  · rename_i hVk
    subst hVk
    rw [hV] at h2
    cases h2
  · cases h3

/-! ### the app is first in selection order (so `hr` above holds for every configured build) -/

theorem resolved_app_first (b : Bag) (builder : Name) (app : Module) (cli : Cli) (rs : RState)
    (h : resolveTop b builder app cli = .ok rs) (app' : Module) (hn : app'.name = app.name) :
    (resolvedOf b builder app' rs).modules =
      app' :: rs.sel.tail.filterMap (b.resolveModule builder) := by
  obtain ⟨hhead, hnd⟩ := C12.resolveTop_app_first b builder app cli rs h
  rw [← hn] at hhead
  exact filterMap_ite_head hhead hnd _ _

/-- the resolver does not look at environments: defining variables in the app's global env
    leaves the resolution unchanged -/
theorem resolveTop_appEnv (b : Bag) (builder : Name) (app : Module) (cli : Cli) (e : Env) (o : Option Env) :
    resolveTop b builder { app with envGlobal := e } { cli with env := o } =
      resolveTop b builder app cli := rfl

/-- C20 (define) for a configured build. `rs` is the resolution of (builder, app); it is also the
    resolution when the `-D` assignments `ce` are instead merged at the end of the app's global
    env, and the global envs the two builds are configured with (the `globalEnv … (resolvedOf …)`
    of `configureResolved`) agree on every non-reserved variable, with the exception described at
    `define_equiv`. -/
theorem define_equiv_configured (st : Settings) (b : Bag) (builder : Name) (app : Module) (cli : Cli)
    (rs : RState) (ce : Env) (hres : resolveTop b builder app { cli with env := some ce } = .ok rs)
    (hwf : Env.WF app.envGlobal) (hce : Env.WF ce) :
    resolveTop b builder { app with envGlobal := app.envGlobal.merge ce } { cli with env := none } = .ok rs ∧
    ∀ k, k ∉ reserved →
      (¬ ∃ a s c,
        (preAppEnv st b builder app (rs.sel.tail.filterMap (b.resolveModule builder))).get k
          = some (.list a) ∧
        app.envGlobal.get k = some (.single s) ∧ ce.get k = some (.list c)) →
      (globalEnv st b builder app
          (resolvedOf b builder (appClone app builder { cli with env := some ce }) rs)
          { cli with env := some ce }).get k =
        (globalEnv st b builder { app with envGlobal := app.envGlobal.merge ce }
          (resolvedOf b builder
            (appClone { app with envGlobal := app.envGlobal.merge ce } builder { cli with env := none }) rs)
          { cli with env := none }).get k := by
  refine ⟨hres, fun k hk hassoc => ?_⟩
  have hm1 := resolved_app_first b builder app _ rs hres
    (appClone app builder { cli with env := some ce }) rfl
  have hm2 := resolved_app_first b builder app _ rs hres
    (appClone { app with envGlobal := app.envGlobal.merge ce } builder { cli with env := none }) rfl
  rw [define_equiv st b builder app _ cli _ _ hm1 hwf ce hce k hk hassoc]
  -- the module list of the in-file spelling (`hm2`) is the one `withAppEnv` writes down
  exact congrArg (fun ms => (globalEnv st b builder app ⟨ms, _⟩ { cli with env := none }).get k) hm2.symm

/-! ## concrete instances: the hypotheses are satisfiable, the exceptions are real -/
namespace Example

/-- `-D`: the resolved module list of this build -/
def res : Resolved := { modules := [app, lib], providers := [] }

example : Env.WF app.envGlobal ∧ "V" ∉ reserved ∧ "W" ∉ reserved := by decide +kernel

/-- `-D V=x`: the same value either way (here `V` is a list in the builder's env and a string in
    the app's) -/
example : (globalEnv {} bag "bld" app res { env := some [("V", .single "x")] }).get "V" =
    some (.single "x") :=
  (define_equiv_single {} bag "bld" app res {} app [lib] rfl (by decide) "V" "x" "V" (by decide)).2 rfl
example : (globalEnv {} bag "bld" app (withAppEnv res app [lib] [("V", .single "x")]) {}).get "V" =
    some (.single "x") :=
  have h := define_equiv_single {} bag "bld" app res {} app [lib] rfl (by decide) "V" "x" "V" (by decide)
  h.1.symm.trans (h.2 rfl)

/-- `-D W+=x` for a variable the app does not define: appended to the other modules' values -/
example : (globalEnv {} bag "bld" app res { env := some [("W", .list ["x"])] }).get "W" =
      some (.list ["l", "x"]) ∧
    (globalEnv {} bag "bld" app (withAppEnv res app [lib] [("W", .list ["x"])]) {}).get "W" =
      some (.list ["l", "x"]) := by decide +kernel

/-- EXCEPTION 1 (why `define_equiv` has `hassoc`): `V` is a list before the app (`[a]` from the
    builder context), a string in the app's global env: `-D V+=c` yields `[c]`, whereas `[c]` merged
    into the app's env yields `[a, c]`.  (A YAML map cannot define `V` twice, so this in-file
    spelling only exists as a merge; with `V` absent from the app's env the two agree,
    `define_equiv_list`.) -/
example : (globalEnv {} bag "bld" app res { env := some [("V", .list ["c"])] }).get "V" =
      some (.list ["c"]) ∧
    (globalEnv {} bag "bld" app (withAppEnv res app [lib] [("V", .list ["c"])]) {}).get "V" =
      some (.list ["a", "c"]) := by decide +kernel

/-- EXCEPTION 2 (why `k ∉ reserved`): `-D relpath=x` overrides `relpath`; a `relpath` in the app's
    global env is overwritten by `configure_build` -/
example : (globalEnv {} bag "bld" app res { env := some [("relpath", .single "x")] }).get "relpath" =
      some (.single "x") ∧
    (globalEnv {} bag "bld" app (withAppEnv res app [lib] [("relpath", .single "x")]) {}).get "relpath" =
      some (.single ".") := by decide +kernel

/-- `define_equiv_configured` applies: the resolution succeeds -/
example : selOf (resolveTop bag "bld" app { env := some [("V", .single "x")] }) =
    some ["app", "lib", "context::bld", "context::default"] := by decide +kernel

end Example

end Laze.C20
