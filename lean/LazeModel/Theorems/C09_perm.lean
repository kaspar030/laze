import LazeModel.Lemmas.Assoc
/-! C09 / C04 — order-insensitivity of the unordered maps and the layering rule.

  `Env` is an association list standing for a hash map that the implementation iterates in arbitrary
  order; so are the `tasks:` maps that are folded into one table with `insertKeyed` (rules come from an
  `IndexMap`: their order is fixed).  The theorems below show that
  every lookup in the result of `merge` / `flatten` / a fold of `insertKeyed` is a function of the
  lookups in the inputs only, hence independent of the iteration order (`List.Perm`), and that the
  value of a variable after merging layers is the LEFT fold of `mergeOpt` over the layers. -/
namespace Laze.C09
open Laze

/-! ## task / rule tables (`insertKeyed`, IndexMap::insert) -/

/-- holds for every `acc`: unique keys are not needed -/
theorem insertKeyed_get {α : Type _} (acc : List (String × α)) (k k' : String) (v : α) :
    ((insertKeyed acc k v).find? (·.1 == k')).map (·.2) =
      if k' = k then some v else (acc.find? (·.1 == k')).map (·.2) :=
  lk_insertKeyed acc k k' v

theorem foldl_insertKeyed_get {α : Type _} (l : List (String × α)) (hl : (l.map (·.1)).Nodup)
    (init : List (String × α)) (k : String) :
    lk (l.foldl (fun acc kv => insertKeyed acc kv.1 kv.2) init) k = (lk l k).or (lk init k) := by
  rw [lk_perm hl (List.reverse_perm l).symm k]
  exact lk_foldl_insert Prod.fst Prod.snd l init k

/-- the final table is pointwise independent of the order in which a hash map of tasks (unique keys)
    is iterated -/
theorem foldl_insertKeyed_perm {α : Type _} (l l' : List (String × α))
    (hl : (l.map (·.1)).Nodup) (hp : l.Perm l') (init : List (String × α)) (k : String) :
    ((l.foldl (fun acc kv => insertKeyed acc kv.1 kv.2) init).find? (·.1 == k)).map (·.2) =
      ((l'.foldl (fun acc kv => insertKeyed acc kv.1 kv.2) init).find? (·.1 == k)).map (·.2) := by
  have hl' : (l'.map (·.1)).Nodup := (hp.map (·.1)).nodup_iff.1 hl
  show lk _ k = lk _ k
  rw [foldl_insertKeyed_get l hl, foldl_insertKeyed_get l' hl', lk_perm hl hp]

theorem foldl_insertKeyed_nodup {α : Type _} (l init : List (String × α))
    (hi : (init.map (·.1)).Nodup) :
    ((l.foldl (fun acc kv => insertKeyed acc kv.1 kv.2) init).map (·.1)).Nodup := by
  induction l generalizing init with
  | nil => exact hi
  | cons p t ih => exact ih _ (insertKeyed_nodup hi _ _)

/-! ## well-formed environments

  `Env.WF` (no key twice) is a hypothesis of the look-up laws of C04 and C20. `insert` and `merge` keep it (`insert_wf`,
  `merge_wf`); that the envs of a LOADED project have it (a YAML map has no key twice) is not proved anywhere: the examples
  discharge it by evaluation. -/

def Env.Keys (e : Env) : List String := e.map (·.1)
def Env.WF (e : Env) : Prop := (e.map (·.1)).Nodup

instance (e : Env) : Decidable (Env.WF e) := inferInstanceAs (Decidable (List.Nodup _))

def mergeOpt : Option EnvKey → Option EnvKey → Option EnvKey
  | some x, some y => some (x.merge y)
  | some x, none => some x
  | none, y => y

@[simp] theorem mergeOpt_none_right (x : Option EnvKey) : mergeOpt x none = x := by
  cases x <;> rfl
@[simp] theorem mergeOpt_none_left (y : Option EnvKey) : mergeOpt none y = y := rfl

theorem flat_get_eq_lk (f : Flat) (k : String) : f.get k = lk f k := rfl
theorem insert_eq_insertKeyed (e : Env) (k : String) (v : EnvKey) :
    e.insert k v = insertKeyed e k v := rfl

theorem has_iff (e : Env) (k : String) : e.has k = true ↔ k ∈ Env.Keys e := any_key Prod.fst e k

theorem get_isSome_iff (e : Env) (k : String) : (e.get k).isSome = true ↔ k ∈ Env.Keys e := by
  rw [get_eq_lk, lk_isSome]
  exact any_key Prod.fst e k

theorem insert_wf {e : Env} (h : Env.WF e) (k : String) (v : EnvKey) : Env.WF (e.insert k v) :=
  insertKeyed_nodup h k v

/-! ## merge -/

/-- one step of the `Env.merge` fold -/
def mergeStep (acc : Env) (kv : String × EnvKey) : Env :=
  match acc.get kv.1 with
  | some old => acc.insert kv.1 (old.merge kv.2)
  | none => acc ++ [kv]

theorem merge_eq_foldl (a b : Env) : a.merge b = b.foldl mergeStep a := rfl

theorem mergeStep_eq (acc : Env) (kv : String × EnvKey) :
    mergeStep acc kv =
      insertKeyed acc kv.1 (match acc.get kv.1 with | some old => old.merge kv.2 | none => kv.2) := by
  unfold mergeStep
  cases h : acc.get kv.1 with
  | some old => rfl
  | none =>
    have : ¬ (acc.any (·.1 == kv.1) = true) := by rw [← lk_isSome, ← get_eq_lk, h]; simp
    simp only [insertKeyed, if_neg this]

theorem mergeStep_get (acc : Env) (kv : String × EnvKey) (k : String) :
    (mergeStep acc kv).get k = mergeOpt (acc.get k) (if kv.1 = k then some kv.2 else none) := by
  rw [mergeStep_eq, get_eq_lk, lk_insertKeyed]
  by_cases h : k = kv.1
  · subst h
    rw [if_pos rfl, if_pos rfl]
    cases acc.get kv.1 <;> rfl
  · have : ¬ kv.1 = k := fun e => h e.symm
    rw [if_neg h, if_neg this, mergeOpt_none_right, get_eq_lk]

/-- lookups in a merged environment: the merge of the two lookups (`a` need not be well-formed) -/
theorem merge_get (a b : Env) (hb : Env.WF b) (k : String) :
    (a.merge b).get k = mergeOpt (a.get k) (b.get k) := by
  rw [merge_eq_foldl]
  induction b generalizing a with
  | nil => exact (mergeOpt_none_right _).symm
  | cons p t ih =>
    unfold Env.WF at hb
    rw [List.map_cons, List.nodup_cons] at hb
    rw [List.foldl_cons, ih _ hb.2, mergeStep_get, get_eq_lk (p :: t), lk_cons, ← get_eq_lk]
    by_cases h : p.1 = k
    · subst h
      rw [if_pos rfl, if_pos rfl, get_eq_lk t, lk_eq_none_iff.2 hb.1, mergeOpt_none_right]
    · rw [if_neg h, if_neg h, mergeOpt_none_right]

theorem merge_wf {a : Env} (ha : Env.WF a) (b : Env) : Env.WF (a.merge b) := by
  rw [merge_eq_foldl]
  induction b generalizing a with
  | nil => exact ha
  | cons p t ih => exact ih (mergeStep_eq a p ▸ insertKeyed_nodup ha _ _)

/-! ## permutation invariance -/

theorem get_perm {e e' : Env} (h : Env.WF e) (hp : e.Perm e') (k : String) :
    e.get k = e'.get k := lk_perm h hp k

theorem wf_perm {e e' : Env} (h : Env.WF e) (hp : e.Perm e') : Env.WF e' :=
  (hp.map (fun x : String × EnvKey => x.1)).nodup_iff.1 h

/-- the iteration order of the merged-in map is unobservable -/
theorem merge_perm (a b b' : Env) (hb : Env.WF b) (hp : b.Perm b') (k : String) :
    (a.merge b).get k = (a.merge b').get k := by
  rw [merge_get a b hb, merge_get a b' (wf_perm hb hp), get_perm hb hp]

/-- neither is the storage order of the receiving map -/
theorem merge_perm_both (a a' b b' : Env) (ha : Env.WF a) (hb : Env.WF b) (hpa : a.Perm a')
    (hpb : b.Perm b') (k : String) : (a.merge b).get k = (a'.merge b').get k := by
  rw [merge_get a b hb, merge_get a' b' (wf_perm hb hpb), get_perm ha hpa, get_perm hb hpb]

/-! ## flatten -/

theorem flatten_get (e : Env) (k : String) :
    (e.flatten).get k = (e.get k).map EnvKey.flatten :=
  lk_map (fun _ => EnvKey.flatten) e k

theorem flatten_perm {e e' : Env} (h : Env.WF e) (hp : e.Perm e') (k : String) :
    (e.flatten).get k = (e'.flatten).get k := by
  rw [flatten_get, flatten_get, get_perm h hp]

/-- the flattened value of a variable after a merge depends on the two lookups only -/
theorem merge_flatten_get (a b : Env) (hb : Env.WF b) (k : String) :
    ((a.merge b).flatten).get k = (mergeOpt (a.get k) (b.get k)).map EnvKey.flatten := by
  rw [flatten_get, merge_get a b hb]

theorem merge_flatten_perm (a a' b b' : Env) (ha : Env.WF a) (hb : Env.WF b) (hpa : a.Perm a')
    (hpb : b.Perm b') (k : String) :
    ((a.merge b).flatten).get k = ((a'.merge b').flatten).get k := by
  rw [flatten_get, flatten_get, merge_perm_both a a' b b' ha hb hpa hpb]

/-! ## layer algebra (C04) -/

/-- the 4-row table of `EnvKey.merge` -/
theorem merge_rules :
    (∀ a b, (EnvKey.list a).merge (.list b) = .list (a ++ b)) ∧
    (∀ a s, (EnvKey.list a).merge (.single s) = .single s) ∧
    (∀ s b, (EnvKey.single s).merge (.list b) = .list b) ∧
    (∀ s t, (EnvKey.single s).merge (.single t) = .single t) :=
  ⟨fun _ _ => rfl, fun _ _ => rfl, fun _ _ => rfl, fun _ _ => rfl⟩

/-- `EnvKey.merge` is NOT associative: layering is a left fold and the grouping matters -/
theorem merge_not_assoc :
    ((EnvKey.list ["a"]).merge (.single "s")).merge (.list ["c"]) ≠
      (EnvKey.list ["a"]).merge ((EnvKey.single "s").merge (.list ["c"])) := by
  decide +kernel

theorem mergeOpt_assoc_fails :
    mergeOpt (mergeOpt (some (.list ["a"])) (some (.single "s"))) (some (.list ["c"])) ≠
      mergeOpt (some (.list ["a"])) (mergeOpt (some (.single "s")) (some (.list ["c"]))) := by
  decide +kernel

/-- `mergeOpt` is associative except on (list, single, list) (`mergeOpt_assoc_fails`) -/
theorem mergeOpt_assoc (x y z : Option EnvKey)
    (h : ¬ ∃ a s c, x = some (.list a) ∧ y = some (.single s) ∧ z = some (.list c)) :
    mergeOpt (mergeOpt x y) z = mergeOpt x (mergeOpt y z) := by
  cases x with
  | none => rfl
  | some x =>
    cases y with
    | none => cases z <;> rfl
    | some y =>
      cases z with
      | none => rfl
      | some z =>
        refine congrArg some (?_ : (x.merge y).merge z = x.merge (y.merge z))
        cases z with
        | single t => cases x <;> cases y <;> rfl  -- a single value replaces whatever stands left of it
        | list c =>
          cases y with
          | list b =>
            cases x with
            | list a => exact congrArg EnvKey.list (List.append_assoc a b c)
            | single s => rfl
          | single s =>
            -- grouped to the left, `s` replaces `x` and `c` replaces `s`; grouped to the right, `c` replaces `s` first and then meets `x`
            cases x with
            | list a => exact absurd ⟨a, s, c, rfl, rfl, rfl⟩ h
            | single _ => rfl

/-- the value of a variable after merging layers in order is the left fold of `mergeOpt` over
    the layers' values of that variable -/
theorem foldl_merge_get (layers : List Env) (base : Env) (hl : ∀ l ∈ layers, Env.WF l)
    (k : String) :
    (layers.foldl Env.merge base).get k =
      layers.foldl (fun acc l => mergeOpt acc (l.get k)) (base.get k) := by
  induction layers generalizing base with
  | nil => rfl
  | cons l t ih =>
    rw [List.foldl_cons, List.foldl_cons, ih _ (fun x hx => hl x (List.mem_cons_of_mem _ hx)),
      merge_get base l (hl l List.mem_cons_self)]

theorem foldl_merge_wf (layers : List Env) {base : Env} (hbase : Env.WF base) :
    Env.WF (layers.foldl Env.merge base) := by
  induction layers generalizing base with
  | nil => exact hbase
  | cons l t ih => exact ih (merge_wf hbase l)

theorem foldl_merge_get' (layers : List Env) (base : Env) (hl : ∀ l ∈ layers, Env.WF l)
    (k : String) :
    (layers.foldl Env.merge base).get k = (layers.map (·.get k)).foldl mergeOpt (base.get k) := by
  rw [foldl_merge_get layers base hl, List.foldl_map]

theorem foldl_mergeOpt_none (init : Option EnvKey) (post : List (Option EnvKey))
    (h : ∀ o ∈ post, o = none) : post.foldl mergeOpt init = init := by
  induction post generalizing init with
  | nil => rfl
  | cons o t ih =>
    rw [List.foldl_cons, h o List.mem_cons_self, mergeOpt_none_right]
    exact ih _ (fun x hx => h x (List.mem_cons_of_mem _ hx))

theorem mergeOpt_single (x : Option EnvKey) (s : String) :
    mergeOpt x (some (.single s)) = some (.single s) := by
  cases x with
  | none => rfl
  | some x => cases x <;> rfl

/-- if the last layer that defines the variable defines it as a plain string, that string is the
    value, whatever the earlier layers said -/
theorem later_single_wins (init : Option EnvKey) (pre post : List (Option EnvKey)) (s : String)
    (hpost : ∀ o ∈ post, o = none) :
    (pre ++ some (.single s) :: post).foldl mergeOpt init = some (.single s) := by
  rw [List.foldl_append, List.foldl_cons, mergeOpt_single, foldl_mergeOpt_none _ _ hpost]

/-- if every layer that defines the variable defines a list, the value is the concatenation of
    the lists in layer order (and undefined iff no layer defines it) -/
theorem lists_append (init : Option (List String)) (vals : List (Option (List String))) :
    (vals.map (Option.map EnvKey.list)).foldl mergeOpt (init.map EnvKey.list) =
      if (init :: vals).filterMap id = [] then none
      else some (.list ((init :: vals).filterMap id).flatten) := by
  induction vals generalizing init with
  | nil => cases init <;> simp
  | cons v t ih =>
    rw [List.map_cons, List.foldl_cons]
    cases init with
    | none =>
      rw [Option.map_none, mergeOpt_none_left, ih v]
      simp
    | some a =>
      cases v with
      | none =>
        rw [Option.map_none, mergeOpt_none_right, ih (some a)]
        simp
      | some b =>
        have : mergeOpt (Option.map EnvKey.list (some a)) (Option.map EnvKey.list (some b)) =
            Option.map EnvKey.list (some (a ++ b)) := rfl
        rw [this, ih (some (a ++ b))]
        simp

/-- special case: the base layer defines a list -/
theorem lists_append_some (l0 : List String) (vals : List (Option (List String))) :
    (vals.map (Option.map EnvKey.list)).foldl mergeOpt (some (.list l0)) =
      some (.list (l0 ++ (vals.filterMap id).flatten)) := by
  simpa using lists_append (some l0) vals

/-! ## concrete, non-vacuous instances -/

example : Env.WF [("A", .list ["1"]), ("B", .single "x")] := by decide +kernel

example :
    (Env.merge [("A", .list ["1"]), ("C", .single "c")]
        [("A", .list ["2"]), ("B", .single "x")]).get "A" = some (.list ["1", "2"]) ∧
    (Env.merge [("A", .list ["1"]), ("C", .single "c")]
        [("B", .single "x"), ("A", .list ["2"])]).get "A" = some (.list ["1", "2"]) := by
  decide +kernel

example :
    (Env.merge [("C", .single "c"), ("A", .list ["1"])]
        [("A", .list ["2"]), ("B", .single "x")]).get "B" =
    (Env.merge [("A", .list ["1"]), ("C", .single "c")]
        [("B", .single "x"), ("A", .list ["2"])]).get "B" := by
  decide +kernel

example : (Env.insert [("A", .single "1"), ("B", .single "2")] "A" (.single "9")).get "A" =
    some (.single "9") := by decide +kernel

example : (Env.flatten (Env.merge [("A", .list ["1"])] [("A", .list ["2", "3"])])).get "A" =
    some "1 2 3" := by decide +kernel

example :
    ([[("A", .list ["x"])], [("B", .single "b")], [("A", .list ["y"])]].foldl Env.merge
      [("A", .list ["w"])]).get "A" = some (.list ["w", "x", "y"]) := by decide +kernel

example :
    ([[("A", .list ["x"])], [("A", .single "s")], [("B", .single "b")]].foldl Env.merge
      [("A", .list ["w"])]).get "A" = some (.single "s") := by decide +kernel

example :
    (([("t1", 1), ("t2", 2), ("t3", 3)].foldl (fun acc kv => insertKeyed acc kv.1 kv.2)
        [("t2", 0)]).find? (·.1 == "t2")).map (·.2) =
    (([("t3", 3), ("t2", 2), ("t1", 1)].foldl (fun acc kv => insertKeyed acc kv.1 kv.2)
        [("t2", 0)]).find? (·.1 == "t2")).map (·.2) := by decide +kernel

end Laze.C09
