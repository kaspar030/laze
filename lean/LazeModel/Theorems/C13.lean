import LazeModel.Theorems.C13_fuel
/-! C13 — variable and expression expansion is total and substitutes exactly. -/
namespace Laze.C13
open Laze

/-! ### text without `${` is returned unchanged -/

theorem no_marker_identity (r : Vars) (pol : Policy) (f : Bytes)
    (h : findSub dollarBrace f = none) : expand r pol f = .ok f :=
  rec_no_marker r pol _ f [] h

/-! ### `$(`-free text is returned unchanged by `eval` -/

theorem eval_no_marker_identity (ev : EvalExpr) (f : Bytes)
    (h : findSub dollarParen f = none) : eval ev f = .ok f := by
  simp [eval, h]

theorem expand_eval_no_marker_identity (ev : EvalExpr) (r : Vars) (pol : Policy) (f : Bytes)
    (h1 : findSub dollarBrace f = none) (h2 : findSub dollarParen f = none) :
    expandEval ev r pol f = .ok f := by
  simp [expandEval, no_marker_identity r pol f h1, eval_no_marker_identity ev f h2]

/-! ### the expander returns a value or a *typed* error: never `panic`, never an `expr` error -/

def Typed : XErr → Prop
  | .missing _ | .unclosed _ | .cycle _ | .fuel => True
  | _ => False

/-- every error of `expand` is `Missing`, `Unclosed` or `Cycle` (or the model's fuel marker, which
    `fuel_suffices` excludes) — in particular never a panic -/
theorem expand_typed_error (r : Vars) (pol : Policy) (f : Bytes) (e : XErr)
    (h : expand r pol f = .error e) : Typed e := by
  rcases expand_error h with ⟨_, rfl⟩ | ⟨_, rfl⟩ | ⟨_, _, _, rfl⟩ <;> trivial

theorem expand_no_panic (r : Vars) (pol : Policy) (f : Bytes) : expand r pol f ≠ .error .panic := by
  intro h; exact expand_typed_error r pol f _ h

/-- `Missing` is only reported under the `Error` policy -/
theorem missing_only_if_asked (r : Vars) (pol : Policy) (hp : pol ≠ .error) (f : Bytes) (k : Bytes) :
    expand r pol f ≠ .error (.missing k) := by
  intro h
  rcases expand_error h with ⟨_, h⟩ | ⟨_, h⟩ | ⟨_, _, hpol, _⟩
  · cases h
  · cases h
  · exact hp hpol

section examples
def v (s : List UInt8) := s
-- "${A}" with A ↦ "${A}" is a cycle
example : expand [([65], [36,123,65,125])] .ignore [36,123,65,125] = .error (.cycle [65]) := by decide +kernel
-- "\${A}" stays the literal "${A}"
example : expand [([65], [120])] .ignore [92,36,123,65,125] = .ok [36,123,65,125] := by decide +kernel
-- "é${A}" (multi-byte char directly before the reference) expands
example : expand [([65], [120])] .ignore [195,169,36,123,65,125] = .ok [195,169,120] := by decide +kernel
-- unknown names: keep / empty / error
example : expand [] .ignore [36,123,65,125] = .ok [36,123,65,125] := by decide +kernel
example : expand [] .empty [36,123,65,125] = .ok [] := by decide +kernel
example : expand [] .error [36,123,65,125] = .error (.missing [65]) := by decide +kernel
end examples

end Laze.C13
