import LazeModel.Lemmas.GenSpec
/-! C01, from the resolver to the build: a build exists only for a successful resolution and its module list is the resolver's
    selection; beside it three small facts about `configureBuild`'s task loop, its loop over the build deps and its step for a
    context module. -/
namespace Laze.GenBasic
open Laze

/-- a build only exists for a successful resolution, and its module list is the resolver's selection -/
theorem built_modules {ev st b builder app cli i}
    (h : configureBuild ev st b builder app cli = .ok (.build i)) :
    ∃ rs, resolveTop b builder app cli = .ok rs ∧
      i.modules = (resolvedOf b builder (appClone app builder cli) rs).modules.map (·.name) := by
  obtain ⟨rs, hrs, c, rfl⟩ := configureBuild_build h
  exact ⟨rs, hrs, rfl⟩

theorem unresolved_not_built {ev st b builder app cli e}
    (h : resolveTop b builder app cli = .error e) :
    ∀ i, configureBuild ev st b builder app cli ≠ .ok (.build i) := by
  intro i hb
  obtain ⟨rs, hrs, _⟩ := built_modules hb
  rw [h] at hrs
  cases hrs

theorem insertTasks_append {ev flat r} (l₁ l₂ : List (String × Task)) (res : List (String × TaskAvail)) :
    insertTasks ev flat r (l₁ ++ l₂) res =
      (match insertTasks ev flat r l₁ res with
       | .error e => .error e
       | .ok res' => insertTasks ev flat r l₂ res') := by
  induction l₁ generalizing res with
  | nil => rfl
  | cons nt ts ih =>
    obtain ⟨name, t⟩ := nt
    simp only [List.cons_append, insertTasks]
    split
    · rfl
    · exact ih _

/-- the loop over the build deps cannot fail: a dep without an entry in the file table is skipped, e.g.
    `importedDepFiles [] ["d"] [] = .ok []` (laze used to panic there: former FINDING C19-F1) -/
theorem importedDepFiles_total (files : FileTable) (l : List Name) (acc : List String) :
    ∃ out, importedDepFiles files l acc = .ok out := ⟨_, importedDepFiles_eq files l acc⟩

example : importedDepFiles [] ["d"] [] = .ok [] := by decide +kernel

/-- a context module contributes no statements and no flattened env -/
theorem moduleStep_contextModule {ev st builder app r rules opts globals m menv bdeps ls}
    (h : m.srcdir = none) :
    moduleStep ev st builder app r rules opts globals m menv bdeps ls = .ok (ls, none) := by
  unfold moduleStep; rw [h]

end Laze.GenBasic
