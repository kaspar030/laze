import LazeModel.Model.Gen
import LazeModel.Theorems.C09_perm
import LazeModel.Theorems.C04_imports
import LazeModel.Lemmas.BuildEnv
/-! C04 — the layering of environments.

  * `global_env_spec`   : the global env (link command, tasks) is
        built-ins ⊕ builder context env ⊕ module globals (REVERSE selection order) ⊕ `-D`.
  * `ctx_env_is_fold`   : the env of a context after `finalize` is the left fold of the own envs
        along the chain root → context (`C04_ctx.lean`).
  * `module_env_spec`   : a module's env is global ⊕ exports of the import closure (in `importsOf`
        order) ⊕ its own local env; `module_env_notify`: `notify` is the list of defines of the import closure.
  * `imports_self_last`, `imports_nodup` : the import closure ends with the module itself and has no duplicates
        (`C04_imports.lean`, which also has the selection the examples below run on).

  "⊕" is `Env.merge`; every law is stated as a lookup law through `C09.mergeOpt`
  (list onto list appends, otherwise the later value wins: `C09.merge_rules`). -/
namespace Laze.C04
open Laze Laze.C09

/-! ## the global env -/

/-- the variables `globalEnv` inserts itself -/
def reserved : List String := ["builder", "app", "relpath", "relroot", "modules", "contexts"]

/-- the (already chain-merged, see `C04_ctx.lean`) env of the builder context -/
def builderCtxEnv (b : Bag) (builder : Name) : Env := ((b.ctx? builder).bind (·.env)).getD []

/-- the `-D` layer -/
def cliEnv (cli : Cli) : Env := cli.env.getD []

/-- the documented layers below `-D`, in merge order -/
def globalLayers (st : Settings) (b : Bag) (builder : Name) (r : Resolved) : List Env :=
  [lazeEnv st, builderCtxEnv b builder] ++ r.modules.reverse.map (·.envGlobal)

/-- the merged layers: `builder` and `app` are inserted into the context layer -/
def layered (st : Settings) (b : Bag) (builder : Name) (appName : String) (r : Resolved) : Env :=
  (r.modules.reverse.map (·.envGlobal)).foldl Env.merge
    ((lazeEnv st).merge (((builderCtxEnv b builder).insert "builder" (.single builder)).insert "app"
      (.single appName)))

/-- `globalEnv` before the `-D` layer: four more variables are inserted on top of the merged layers -/
def globalBase (st : Settings) (b : Bag) (builder : Name) (app : Module) (r : Resolved) : Env :=
  ((((layered st b builder app.name r).insert "relpath" (.single app.relpath)).insert "relroot"
      (.single (relroot app.relpath))).insert "modules"
        (.list ((r.modules.filter (!·.isContextModule)).map (·.name)))).insert "contexts"
          (.list (b.chain builder))

theorem globalEnv_eq (st : Settings) (b : Bag) (builder : Name) (app : Module) (r : Resolved)
    (cli : Cli) :
    globalEnv st b builder app r cli =
      match cli.env with
      | some e => (globalBase st b builder app r).merge e
      | none => globalBase st b builder app r := by
  unfold globalEnv globalBase layered builderCtxEnv
  rw [List.foldl_map]
  rfl

/-- the `-D` layer is merged last -/
theorem globalEnv_get_cli {st : Settings} {b : Bag} {builder : Name} {app : Module} {r : Resolved}
    {cli : Cli} (hcli : Env.WF (cliEnv cli)) (k : String) :
    (globalEnv st b builder app r cli).get k =
      mergeOpt ((globalBase st b builder app r).get k) ((cliEnv cli).get k) := by
  rw [globalEnv_eq]
  unfold cliEnv at *
  cases h : cli.env with
  | none => exact (mergeOpt_none_right _).symm
  | some e =>
    rw [h] at hcli
    exact merge_get _ e hcli k

theorem lazeEnv_wf (st : Settings) : Env.WF (lazeEnv st) := by
  simp [Env.WF, lazeEnv]

theorem globalBase_get (st : Settings) (b : Bag) (builder : Name) (app : Module) (r : Resolved)
    (k : String) :
    (globalBase st b builder app r).get k =
      if k = "contexts" then some (.list (b.chain builder))
      else if k = "modules" then some (.list ((r.modules.filter (!·.isContextModule)).map (·.name)))
      else if k = "relroot" then some (.single (relroot app.relpath))
      else if k = "relpath" then some (.single app.relpath)
      else (layered st b builder app.name r).get k := by
  unfold globalBase
  rw [insert_get, insert_get, insert_get, insert_get]

theorem layered_get (st : Settings) (b : Bag) (builder : Name) (appName : String) (r : Resolved)
    (hctx : Env.WF (builderCtxEnv b builder))
    (hmods : ∀ m ∈ r.modules, Env.WF m.envGlobal) (k : String) :
    (layered st b builder appName r).get k =
      ((r.modules.reverse.map (·.envGlobal)).map (·.get k)).foldl mergeOpt
        (mergeOpt ((lazeEnv st).get k)
          (if k = "app" then some (.single appName) else if k = "builder" then some (.single builder)
            else (builderCtxEnv b builder).get k)) := by
  unfold layered
  rw [foldl_merge_get', merge_get _ _ (insert_wf (insert_wf hctx _ _) _ _), insert_get, insert_get]
  exact List.forall_mem_map.2 fun m hm => hmods m (List.mem_reverse.1 hm)

/-- **C04 (global env).**  For every variable that `globalEnv` does not insert itself, the value
    seen by the link command and the tasks is the left fold of `mergeOpt` over: laze's built-ins,
    the builder's context env, the global envs of the selected modules in REVERSE selection order
    — and the `-D` assignments on top. -/
theorem global_env_spec (st : Settings) (b : Bag) (builder : Name) (app : Module) (r : Resolved)
    (cli : Cli) (k : String) (hk : k ∉ reserved)
    (hctx : Env.WF (builderCtxEnv b builder))
    (hmods : ∀ m ∈ r.modules, Env.WF m.envGlobal)
    (hcli : Env.WF (cliEnv cli)) :
    (globalEnv st b builder app r cli).get k =
      mergeOpt (((globalLayers st b builder r).map (·.get k)).foldl mergeOpt none)
        ((cliEnv cli).get k) := by
  simp only [reserved, List.mem_cons, List.not_mem_nil, or_false, not_or] at hk
  obtain ⟨h1, h2, h3, h4, h5, h6⟩ := hk
  rw [globalEnv_get_cli hcli, globalBase_get, if_neg h6, if_neg h5, if_neg h4, if_neg h3,
    layered_get st b builder app.name r hctx hmods, if_neg h2, if_neg h1]
  rfl

/-- the same law, as the documented sequence of `Env.merge`s -/
theorem global_env_spec' (st : Settings) (b : Bag) (builder : Name) (app : Module) (r : Resolved)
    (cli : Cli) (k : String) (hk : k ∉ reserved)
    (hctx : Env.WF (builderCtxEnv b builder))
    (hmods : ∀ m ∈ r.modules, Env.WF m.envGlobal)
    (hcli : Env.WF (cliEnv cli)) :
    (globalEnv st b builder app r cli).get k =
      (((r.modules.reverse.map (·.envGlobal)).foldl Env.merge
          ((lazeEnv st).merge (builderCtxEnv b builder))).merge (cliEnv cli)).get k := by
  rw [global_env_spec st b builder app r cli k hk hctx hmods hcli, merge_get _ _ hcli,
    foldl_merge_get', merge_get _ _ hctx]
  · rfl
  · exact List.forall_mem_map.2 fun m hm => hmods m (List.mem_reverse.1 hm)

/-! ### the inserted variables -/

/-- `builder` is inserted into the CONTEXT layer: module globals and `-D` are merged on top of it -/
theorem globalEnv_builder (st : Settings) (b : Bag) (builder : Name) (app : Module) (r : Resolved)
    (cli : Cli) (hctx : Env.WF (builderCtxEnv b builder))
    (hmods : ∀ m ∈ r.modules, Env.WF m.envGlobal) (hcli : Env.WF (cliEnv cli)) :
    (globalEnv st b builder app r cli).get "builder" =
      mergeOpt (((r.modules.reverse.map (·.envGlobal)).map (·.get "builder")).foldl mergeOpt
        (some (.single builder))) ((cliEnv cli).get "builder") := by
  rw [globalEnv_get_cli hcli, globalBase_get, layered_get st b builder app.name r hctx hmods,
    show (lazeEnv st).get "builder" = none from lk_eq_none_iff.2 (by simp [lazeEnv])]
  simp only [String.reduceEq, ↓reduceIte, mergeOpt_none_left]

/-- `app` likewise -/
theorem globalEnv_app (st : Settings) (b : Bag) (builder : Name) (app : Module) (r : Resolved)
    (cli : Cli) (hctx : Env.WF (builderCtxEnv b builder))
    (hmods : ∀ m ∈ r.modules, Env.WF m.envGlobal) (hcli : Env.WF (cliEnv cli)) :
    (globalEnv st b builder app r cli).get "app" =
      mergeOpt (((r.modules.reverse.map (·.envGlobal)).map (·.get "app")).foldl mergeOpt
        (some (.single app.name))) ((cliEnv cli).get "app") := by
  rw [globalEnv_get_cli hcli, globalBase_get, layered_get st b builder app.name r hctx hmods,
    show (lazeEnv st).get "app" = none from lk_eq_none_iff.2 (by simp [lazeEnv])]
  simp only [String.reduceEq, ↓reduceIte, mergeOpt_none_left]

/-- `relpath`, `relroot`, `modules`, `contexts` are inserted after every layer except `-D`:
    only a `-D` assignment can change (or, for the two lists, extend) them -/
theorem globalEnv_relpath (st : Settings) (b : Bag) (builder : Name) (app : Module) (r : Resolved)
    (cli : Cli) (hcli : Env.WF (cliEnv cli)) :
    (globalEnv st b builder app r cli).get "relpath" =
      mergeOpt (some (.single app.relpath)) ((cliEnv cli).get "relpath") := by
  rw [globalEnv_get_cli hcli, globalBase_get]
  simp only [String.reduceEq, ↓reduceIte]

theorem globalEnv_relroot (st : Settings) (b : Bag) (builder : Name) (app : Module) (r : Resolved)
    (cli : Cli) (hcli : Env.WF (cliEnv cli)) :
    (globalEnv st b builder app r cli).get "relroot" =
      mergeOpt (some (.single (relroot app.relpath))) ((cliEnv cli).get "relroot") := by
  rw [globalEnv_get_cli hcli, globalBase_get]
  simp only [String.reduceEq, ↓reduceIte]

theorem globalEnv_modules (st : Settings) (b : Bag) (builder : Name) (app : Module) (r : Resolved)
    (cli : Cli) (hcli : Env.WF (cliEnv cli)) :
    (globalEnv st b builder app r cli).get "modules" =
      mergeOpt (some (.list ((r.modules.filter (!·.isContextModule)).map (·.name))))
        ((cliEnv cli).get "modules") := by
  rw [globalEnv_get_cli hcli, globalBase_get]
  simp only [String.reduceEq, ↓reduceIte]

theorem globalEnv_contexts (st : Settings) (b : Bag) (builder : Name) (app : Module) (r : Resolved)
    (cli : Cli) (hcli : Env.WF (cliEnv cli)) :
    (globalEnv st b builder app r cli).get "contexts" =
      mergeOpt (some (.list (b.chain builder))) ((cliEnv cli).get "contexts") := by
  rw [globalEnv_get_cli hcli, globalBase_get, if_pos rfl]

theorem globalEnv_modules_plain (st : Settings) (b : Bag) (builder : Name) (app : Module)
    (r : Resolved) (cli : Cli) (hcli : Env.WF (cliEnv cli))
    (hno : (cliEnv cli).get "modules" = none) :
    (globalEnv st b builder app r cli).get "modules" =
      some (.list ((r.modules.filter (!·.isContextModule)).map (·.name))) := by
  rw [globalEnv_modules _ _ _ _ _ _ hcli, hno]
  rfl

theorem globalEnv_wf (st : Settings) (b : Bag) (builder : Name) (app : Module) (r : Resolved)
    (cli : Cli) : Env.WF (globalEnv st b builder app r cli) := by
  rw [globalEnv_eq]
  have hb : Env.WF (globalBase st b builder app r) := by
    unfold globalBase
    exact insert_wf (insert_wf (insert_wf (insert_wf
      (foldl_merge_wf _ (merge_wf (lazeEnv_wf st) _)) _ _) _ _) _ _) _ _
  split
  · exact merge_wf hb _
  · exact hb


/-! ## the module env -/

/-- the list value of an optional variable (`[]` when it is absent) -/
def notifyList : Option EnvKey → List String
  | some (.list l) => l
  | _ => []

theorem notifyAppend_ok {env env' : Env} {dep : Module} (h : notifyAppend env dep = .ok env') :
    env' = env.insert "notify" (.list (notifyList (env.get "notify") ++ [defineName dep.name])) := by
  unfold notifyAppend at h
  split at h
  · cases h
  · next hl => cases h; rw [hl]; rfl
  · next hl => cases h; rw [hl]; rfl

theorem depEnvStep_get {m dep : Module} {env env' : Env} (h : depEnvStep m dep env = .ok env')
    (hwf : Env.WF dep.envExport) (k : String) (hk : k ≠ "notify") :
    env'.get k = mergeOpt (env.get k) (dep.envExport.get k) := by
  unfold depEnvStep at h
  split at h
  · cases h; exact merge_get _ _ hwf k
  · rw [notifyAppend_ok h, insert_get, if_neg hk]; exact merge_get _ _ hwf k

theorem foldlM_depEnvStep_get {deps : List Module} {m : Module} {env e : Env}
    (h : deps.foldlM (fun e d => depEnvStep m d e) env = .ok e)
    (hwf : ∀ d ∈ deps, Env.WF d.envExport) (k : String) (hk : k ≠ "notify") :
    e.get k = (deps.map (·.envExport.get k)).foldl mergeOpt (env.get k) := by
  rw [List.foldl_map]
  exact Except.foldlM_ok_rel (fun (e : Env) o => e.get k = o) deps
    (fun d hd _ _ _ hb hs => hb ▸ depEnvStep_get hs (hwf d hd) k hk) rfl h

theorem finishEnv_get (r : Resolved) (m : Module) (env : Env) (hloc : Env.WF m.envLocal) (k : String) :
    (finishEnv r m env).get k =
      mergeOpt (if k = "notify" ∧ m.notifyAll = true then
          some (.list ((r.modules.filter (!·.isContextModule)).map (defineName ·.name)))
        else env.get k) (m.envLocal.get k) := by
  unfold finishEnv notifyAllEnv
  rw [merge_get _ _ hloc]
  congr 1
  by_cases hn : m.notifyAll = true
  · rw [if_pos hn, insert_get]
    by_cases hk : k = "notify"
    · rw [if_pos hk, if_pos ⟨hk, hn⟩]
    · rw [if_neg hk, if_neg fun h => hk h.1]
  · rw [if_neg hn, if_neg fun h => hn h.2]

/-- **C04 (module env).**  What a module's compile commands see, for every variable except
    `notify`: the global env, then the exported env of every module of the import closure in
    `importsOf` order (dependencies first, the module itself last), then the module's local env.
    (No assumption on `notify_all` is needed for these variables.) -/
theorem module_env_spec {r : Resolved} {m : Module} {genv env : Env} {bdeps : Option (List Name)}
    (h : buildEnv r m genv = .ok (env, bdeps))
    (hexp : ∀ d ∈ importedModules r m, Env.WF d.envExport) (hloc : Env.WF m.envLocal)
    (k : String) (hk : k ≠ "notify") :
    env.get k =
      mergeOpt (((importedModules r m).map (·.envExport.get k)).foldl mergeOpt (genv.get k))
        (m.envLocal.get k) := by
  obtain ⟨e, he, ⟨⟩⟩ := buildEnv_ok h
  rw [finishEnv_get r m e hloc, if_neg fun h => hk h.1, foldlM_depEnvStep_get he hexp k hk]

/-- the same law as the documented sequence of merges -/
theorem module_env_spec' {r : Resolved} {m : Module} {genv env : Env} {bdeps : Option (List Name)}
    (h : buildEnv r m genv = .ok (env, bdeps))
    (hexp : ∀ d ∈ importedModules r m, Env.WF d.envExport) (hloc : Env.WF m.envLocal)
    (k : String) (hk : k ≠ "notify") :
    env.get k =
      ((((importedModules r m).map (·.envExport)).foldl Env.merge genv).merge m.envLocal).get k := by
  rw [module_env_spec h hexp hloc k hk, merge_get _ _ hloc, foldl_merge_get', List.map_map]
  · rfl
  · exact List.forall_mem_map.2 hexp

/-! ### `notify` -/

/-- what one loop iteration does to `notify` (for a module without `notify_all`) -/
def notifyStep (o : Option EnvKey) (d : Module) : Option EnvKey :=
  some (.list (notifyList (mergeOpt o (d.envExport.get "notify")) ++ [defineName d.name]))

theorem depEnvStep_notify {m dep : Module} {env env' : Env} (h : depEnvStep m dep env = .ok env')
    (hna : m.notifyAll = false) (hwf : Env.WF dep.envExport) :
    env'.get "notify" = notifyStep (env.get "notify") dep := by
  unfold depEnvStep at h
  rw [hna, if_neg Bool.false_ne_true] at h
  rw [notifyAppend_ok h, insert_get, if_pos rfl, merge_get _ _ hwf]
  rfl

theorem foldlM_depEnvStep_notify {deps : List Module} {m : Module} {env e : Env}
    (h : deps.foldlM (fun e d => depEnvStep m d e) env = .ok e)
    (hna : m.notifyAll = false) (hwf : ∀ d ∈ deps, Env.WF d.envExport) :
    e.get "notify" = deps.foldl notifyStep (env.get "notify") :=
  Except.foldlM_ok_rel (fun (e : Env) o => e.get "notify" = o) deps
    (fun d hd _ _ _ hb hs => hb ▸ depEnvStep_notify hs hna (hwf d hd)) rfl h

/-- `deps ≠ []` is needed: only after the first step is the value a list, whatever `o` was -/
theorem foldl_notifyStep_plain (deps : List Module) (hne : deps ≠ [])
    (hno : ∀ d ∈ deps, d.envExport.get "notify" = none) (o : Option EnvKey) :
    deps.foldl notifyStep o = some (.list (notifyList o ++ deps.map (defineName ·.name))) := by
  obtain ⟨d, ds, rfl⟩ := List.exists_cons_of_ne_nil hne
  clear hne
  induction ds generalizing d o with
  | nil =>
    rw [List.foldl_cons, List.foldl_nil, notifyStep, hno d List.mem_cons_self, mergeOpt_none_right]
    rfl
  | cons d' ds ih =>
    rw [List.foldl_cons, ih _ d' (fun x hx => hno x (List.mem_cons_of_mem _ hx)), notifyStep,
      hno d List.mem_cons_self, mergeOpt_none_right]
    simp only [notifyList, List.map_cons, List.append_assoc, List.singleton_append]

theorem module_env_notify_fold {r : Resolved} {m : Module} {genv env : Env}
    {bdeps : Option (List Name)} (h : buildEnv r m genv = .ok (env, bdeps))
    (hna : m.notifyAll = false)
    (hexp : ∀ d ∈ importedModules r m, Env.WF d.envExport) (hloc : Env.WF m.envLocal) :
    env.get "notify" =
      mergeOpt ((importedModules r m).foldl notifyStep (genv.get "notify"))
        (m.envLocal.get "notify") := by
  obtain ⟨e, he, ⟨⟩⟩ := buildEnv_ok h
  rw [finishEnv_get r m e hloc, if_neg fun h => Bool.false_ne_true (hna ▸ h.2), foldlM_depEnvStep_notify he hna hexp]

/-- **C04 (`notify`)**: when no module of the import closure exports a variable called `notify`,
    `notify` is whatever list the global env had, followed by the `defineName` of every module of
    the import closure, in `importsOf` order (local env on top) -/
theorem module_env_notify {r : Resolved} {m : Module} {genv env : Env}
    {bdeps : Option (List Name)} (h : buildEnv r m genv = .ok (env, bdeps))
    (hna : m.notifyAll = false) (hne : importedModules r m ≠ [])
    (hexp : ∀ d ∈ importedModules r m, Env.WF d.envExport) (hloc : Env.WF m.envLocal)
    (hno : ∀ d ∈ importedModules r m, d.envExport.get "notify" = none) :
    env.get "notify" =
      mergeOpt (some (.list (notifyList (genv.get "notify") ++
          (importedModules r m).map (defineName ·.name))))
        (m.envLocal.get "notify") := by
  rw [module_env_notify_fold h hna hexp hloc, foldl_notifyStep_plain _ hne hno]

/-- for a `notify_all` module: every selected non-context module (local env on top) -/
theorem module_env_notify_all {r : Resolved} {m : Module} {genv env : Env}
    {bdeps : Option (List Name)} (h : buildEnv r m genv = .ok (env, bdeps))
    (hna : m.notifyAll = true) (hloc : Env.WF m.envLocal) :
    env.get "notify" =
      mergeOpt (some (.list ((r.modules.filter (!·.isContextModule)).map (defineName ·.name))))
        (m.envLocal.get "notify") := by
  obtain ⟨e, _, ⟨⟩⟩ := buildEnv_ok h
  rw [finishEnv_get r m e hloc, if_pos ⟨rfl, hna⟩]

/-- a `single` value of `notify` (from the global env or an export) is rejected by `build_env`
    with a reported error (laze used to panic here) -/
theorem notify_single_rejected (env : Env) (dep : Module) (s : String)
    (h : env.get "notify" = some (.single s)) :
    notifyAppend env dep = .error (.error "module.rs:build_env notify must be a list") := by
  unfold notifyAppend
  rw [h]

/-! ## concrete, non-vacuous instances -/
section Examples

def exBag : Bag :=
  ⟨[{ name := "default", parent := none, env := some [("CFLAGS", .list ["-O2"]), ("CC", .single "gcc")] }]⟩
def exCli : Cli := { env := some [("CFLAGS", .list ["-g"])] }

/-- built-ins, context, module globals in REVERSE selection order (lib, then app), `-D` -/
example : (globalEnv {} exBag "default" exApp exR exCli).get "CFLAGS" =
    some (.list ["-O2", "-DLIB", "-DAPP", "-g"]) := by decide +kernel
example : (globalEnv {} exBag "default" exApp exR exCli).get "CC" = some (.single "clang") := by
  decide +kernel
example : (globalEnv {} exBag "default" exApp exR exCli).get "modules" =
    some (.list ["app", "lib"]) := by decide +kernel

theorem exR_wf : ∀ m ∈ exR.modules, Env.WF m.envGlobal := by
  intro m hm
  simp only [exR, List.mem_cons, List.not_mem_nil, or_false] at hm
  rcases hm with rfl | rfl <;> decide

example := global_env_spec {} exBag "default" exApp exR exCli "CFLAGS" (by decide) (by decide)
  exR_wf (by decide)
example := globalEnv_modules {} exBag "default" exApp exR exCli (by decide)

/-- global env, exports of the import closure (lib first, app itself last), local env -/
example : (buildEnv exR exApp [("INC", .list ["-Iglobal"])]).toOption.map (fun p => p.1.get "INC") =
    some (some (.list ["-Iglobal", "-Ilib", "-Iapp", "-Iprivate"])) := by decide +kernel
example : (buildEnv exR exApp []).toOption.map (fun p => p.1.get "notify") =
    some (some (.list [defineName "lib", defineName "app"])) := by rfl

/-- the hypotheses of `module_env_spec` / `module_env_notify` hold here -/
example : ∃ env bdeps, buildEnv exR exApp [] = .ok (env, bdeps) ∧ exApp.notifyAll = false ∧
    importedModules exR exApp ≠ [] ∧ (∀ d ∈ importedModules exR exApp, Env.WF d.envExport) ∧
    Env.WF exApp.envLocal ∧ (∀ d ∈ importedModules exR exApp, d.envExport.get "notify" = none) :=
  ⟨_, _, rfl, rfl, by decide, by decide, by decide, by decide⟩

/-! ## where the model (= the implementation) deviates from the prose of C04

  The documented order is "built-ins, contexts, module globals, `-D`".  The variables laze
  computes itself do NOT all sit in the built-in layer: -/

/-- `builder` / `app` live in the CONTEXT layer, so a selected module's global env (or `-D`)
    silently replaces `${app}` / `${builder}` for the link command and the tasks
    (`globalEnv_builder`, `globalEnv_app`) -/
example :
    (globalEnv {} exBag "default" exApp
      ⟨[exApp, { exLib with envGlobal := [("app", .single "hijacked")] }], []⟩ {}).get "app" =
      some (.single "hijacked") := by decide +kernel

/-- `relpath`, `relroot`, `modules`, `contexts` are inserted AFTER the context and module
    layers: a context or module global env defining one of them is silently overwritten
    (only `-D` reaches them, `globalEnv_relpath` …) -/
example :
    (globalEnv {} ⟨[{ name := "default", parent := none, env := some [("relpath", .single "ctx")] }]⟩
      "default" exApp ⟨[exApp, { exLib with envGlobal := [("modules", .list ["mine"])] }], []⟩
      {}).get "relpath" = some (.single ".") ∧
    (globalEnv {} ⟨[{ name := "default", parent := none, env := some [("relpath", .single "ctx")] }]⟩
      "default" exApp ⟨[exApp, { exLib with envGlobal := [("modules", .list ["mine"])] }], []⟩
      {}).get "modules" = some (.list ["app", "lib"]) := by decide +kernel

/-- `-D modules+=x` EXTENDS the computed list (list onto list appends) -/
example :
    (globalEnv {} exBag "default" exApp exR { env := some [("modules", .list ["x"])] }).get
      "modules" = some (.list ["app", "lib", "x"]) := by decide +kernel

/-- a plain-string variable called `notify` (exported by an imported module, or global)
    makes `build_env` fail with the reported error "notify must be a list" (formerly a panic) -/
example :
    buildEnv ⟨[exApp, { exLib with envExport := [("notify", .single "oops")] }], []⟩ exApp [] =
      .error (.error "module.rs:build_env notify must be a list") := by decide +kernel

end Examples

end Laze.C04
