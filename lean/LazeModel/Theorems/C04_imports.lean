import LazeModel.Model.ModuleEnv
import LazeModel.Lemmas.List
/-! C04, the import closure: it has no duplicates and ends with the module itself, so the exports of every module
    are merged once and the module's own exports last (`imports_nodup`, `imports_self_last`). -/
namespace Laze.C04
open Laze

/-- what a level of the recursion owes its caller: entered with the visited names `S`, it returns
    `(res, seen')` where `res` has no duplicates and nothing that was visited before, and `seen'` holds
    `S` and `res` -/
def AccOK (S : List Name) (acc : List Name × List Name) : Prop :=
  acc.1.Nodup ∧ (∀ x ∈ acc.1, x ∉ S ∧ x ∈ acc.2) ∧ (∀ x ∈ S, x ∈ acc.2)

def IRecOK (rec : IRec) : Prop := ∀ n seen, AccOK seen (rec n seen)

theorem AccOK.nil (S : List Name) : AccOK S ([], S) :=
  ⟨List.nodup_nil, fun _ hx => absurd hx List.not_mem_nil, fun _ hx => hx⟩

/-- the step of the two folds in `importsStep` -/
theorem AccOK.append {S : List Name} {acc p : List Name × List Name} (h : AccOK S acc)
    (hp : AccOK acc.2 p) : AccOK S (acc.1 ++ p.1, p.2) := by
  obtain ⟨h1, h2, h3⟩ := h
  obtain ⟨r1, r2, r3⟩ := hp
  refine ⟨List.nodup_append.2 ⟨h1, r1, fun a ha b hb hab => (r2 b hb).1 (hab ▸ (h2 a ha).2)⟩,
    fun x hx => ?_, fun x hx => r3 x (h3 x hx)⟩
  rcases List.mem_append.1 hx with hx | hx
  · exact ⟨(h2 x hx).1, r3 x (h2 x hx).2⟩
  · exact ⟨fun hs => (r2 x hx).1 (h3 x hs), (r2 x hx).2⟩

/-- post-order: the name that was marked visited on entry is appended on exit -/
theorem AccOK.snoc {S : List Name} {n : Name} {acc : List Name × List Name} (hn : n ∉ S)
    (h : AccOK (S ++ [n]) acc) : AccOK S (acc.1 ++ [n], acc.2) := by
  obtain ⟨h1, h2, h3⟩ := h
  have hin : n ∈ S ++ [n] := List.mem_append_right _ List.mem_cons_self
  refine ⟨List.nodup_snoc.2 ⟨h1, fun hm => (h2 n hm).1 hin⟩, fun x hx => ?_,
    fun x hx => h3 x (List.mem_append_left _ hx)⟩
  rcases List.mem_append.1 hx with hx | hx
  · exact ⟨fun hs => (h2 x hx).1 (List.mem_append_left _ hs), (h2 x hx).2⟩
  · cases List.mem_singleton.1 hx
    exact ⟨hn, h3 n hin⟩

theorem importsStep_ok (r : Resolved) {rec : IRec} (hrec : IRecOK rec) :
    IRecOK (importsStep r rec) := by
  intro n seen
  unfold importsStep
  split
  · exact .nil seen
  · next hc =>
    have hn : n ∉ seen := fun hm => hc (List.contains_iff_mem.2 hm)
    dsimp only
    split
    · exact (AccOK.nil _).snoc hn
    · refine .snoc hn (List.foldlRecOn _ _ (.nil _) fun acc hacc d _ => ?_)
      cases importName r d with
      | none => exact hacc
      | some x =>
        dsimp only
        refine List.foldlRecOn _ _ ?_ fun acc' hacc' q _ => hacc'.append (hrec q _)
        split
        · exact hacc.append (hrec x _)
        · exact hacc

theorem importsRec_ok (r : Resolved) : ∀ fuel, IRecOK (importsRec r fuel)
  | 0 => fun _ seen => .nil seen
  | f + 1 => importsStep_ok r (importsRec_ok r f)

/-- the import closure has no duplicates: every module's exports are merged exactly once -/
theorem imports_nodup (r : Resolved) (n : Name) : (importsOf r n).Nodup :=
  (importsRec_ok r _ n []).1

/-- the import closure of a selected module ends with the module itself: its own exports are
    merged after those of everything it uses / depends on -/
theorem imports_self_last (r : Resolved) (m : Module) (h : r.module? m.name = some m) :
    ∃ pre, importsOf r m.name = pre ++ [m.name] ∧ m.name ∉ pre := by
  obtain ⟨pre, hpre⟩ : ∃ pre, importsOf r m.name = pre ++ [m.name] := by
    unfold importsOf
    show ∃ pre, (importsStep r (importsRec r (r.modules.length + 1)) m.name []).1 = _
    unfold importsStep
    rw [if_neg (by simp)]
    dsimp only
    rw [h]
    exact ⟨_, rfl⟩
  exact ⟨pre, hpre, (List.nodup_snoc.1 (hpre ▸ imports_nodup r m.name)).2⟩

theorem importedModules_self_last (r : Resolved) (m : Module) (h : r.module? m.name = some m) :
    ∃ pre, importedModules r m = pre ++ [m] := by
  obtain ⟨pre, hpre, _⟩ := imports_self_last r m h
  unfold importedModules
  rw [hpre, List.filterMap_append]
  exact ⟨_, congrArg (_ ++ ·) (by simp [h])⟩

theorem importedModules_ne_nil (r : Resolved) (m : Module) (h : r.module? m.name = some m) :
    importedModules r m ≠ [] := by
  obtain ⟨pre, hpre⟩ := importedModules_self_last r m h
  rw [hpre]
  simp

/-! ## a concrete instance: `app` imports `lib` (the selection the examples of `C04.lean` and `C05.lean` run on) -/

def exLib : Module :=
  { name := "lib", contextName := "default", envGlobal := [("CFLAGS", .list ["-DLIB"])],
    envExport := [("INC", .list ["-Ilib"])], envLocal := [("CFLAGS", .list ["-DLIB_LOCAL"])] }
def exApp : Module :=
  { name := "app", contextName := "default", imports := [.hard "lib"],
    envGlobal := [("CFLAGS", .list ["-DAPP"]), ("CC", .single "clang")],
    envExport := [("INC", .list ["-Iapp"])], envLocal := [("INC", .list ["-Iprivate"])] }
def exR : Resolved := ⟨[exApp, exLib], []⟩

example : importsOf exR "app" = ["lib", "app"] := by decide +kernel
example : exR.module? exApp.name = some exApp := by rfl
example := imports_self_last exR exApp (by rfl)

end Laze.C04
