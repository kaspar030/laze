import LazeModel.Theorems.C16
/-! C18 — the ninja invocation of `laze build` (without a task) and `laze clean`: the file, the
    flags passed through, the targets (exactly the configured builds of the `--builders`/`--apps`
    selection), `-G`, and the exit status (`runBuild … none`, `runClean`, `plainTargets`,
    `ninjaArgv` of `LazeModel/Model/MainRun.lean`).

    The result of the ninja process is the parameter `ninjaRc` of the model; "ninja cannot be
    started" is one of the non-zero values. -/
namespace Laze.C18
open Laze

/-- `-f <file> [-v] [-j n] -k <keep-going>`: the arguments before the targets -/
def flagArgs (st : Settings) (a : Args) (fl : Flags) : List String :=
  ["-f", ninjaFile st a.mode] ++ (if fl.verbose > 0 then ["-v"] else []) ++
  (match fl.jobs with | some j => ["-j", toString j] | none => []) ++
  ["-k", toString fl.keepGoing]

def rcStatus (ninjaRc : Nat) : Nat := if ninjaRc == 0 then 0 else 1

theorem rcStatus_ne_zero (ninjaRc : Nat) : rcStatus ninjaRc ≠ 0 ↔ ninjaRc ≠ 0 := by
  unfold rcStatus
  by_cases h : ninjaRc = 0
  · rw [h]; exact ⟨fun h' => absurd rfl h', fun h' => absurd rfl h'⟩
  · rw [if_neg (by rwa [beq_iff_eq])]; exact ⟨fun _ => h, fun _ => Nat.one_ne_zero⟩

theorem ninjaArgv_plain (st : Settings) (a : Args) (fl : Flags) (targets : Option (List String)) :
    ninjaArgv (ninjaFile st a.mode) (fl.verbose > 0) fl.jobs (some fl.keepGoing) targets =
      flagArgs st a fl ++ targets.getD [] := by
  simp only [ninjaArgv, flagArgs, decide_eq_true_eq]
  rfl

/-- `-G`: nothing is spawned by a plain `laze build`, status 0 -/
theorem no_ninja_with_G (st : Settings) (a : Args) (fl : Flags) (builds : List BuildInfo) (ninjaRc : Nat)
    (cmdFails : String → Bool) (hG : fl.generateOnly = true) :
    runBuild st a fl builds none ninjaRc cmdFails = ([], 0) := by
  unfold runBuild
  simp [hG]

theorem runBuild_plain (st : Settings) (a : Args) (fl : Flags) (builds : List BuildInfo) (ninjaRc : Nat)
    (cmdFails : String → Bool) (hG : fl.generateOnly = false) :
    runBuild st a fl builds none ninjaRc cmdFails =
      if plainTargets a builds = some [] then ([], 0)
      else ([.ninja (flagArgs st a fl ++ (plainTargets a builds).getD [])], rcStatus ninjaRc) := by
  unfold runBuild
  simp only [hG, Bool.false_eq_true, if_false]
  split
  · rename_i h; rw [if_pos h]
  · rename_i h
    rw [if_neg h, ninjaArgv_plain]
    rfl

theorem runBuild_plain_cases (st : Settings) (a : Args) (fl : Flags) (builds : List BuildInfo) (ninjaRc : Nat)
    (cmdFails : String → Bool) :
    ((fl.generateOnly = true ∨ plainTargets a builds = some []) ∧
      runBuild st a fl builds none ninjaRc cmdFails = ([], 0)) ∨
    (fl.generateOnly = false ∧ plainTargets a builds ≠ some [] ∧
      runBuild st a fl builds none ninjaRc cmdFails =
        ([.ninja (flagArgs st a fl ++ (plainTargets a builds).getD [])], rcStatus ninjaRc)) := by
  cases hG : fl.generateOnly with
  | true => exact .inl ⟨.inl rfl, no_ninja_with_G st a fl builds ninjaRc cmdFails hG⟩
  | false =>
    rw [runBuild_plain st a fl builds ninjaRc cmdFails hG]
    by_cases h : plainTargets a builds = some []
    · exact .inl ⟨.inr h, if_pos h⟩
    · exact .inr ⟨rfl, h, if_neg h⟩

theorem plainTargets_selector {a : Args} (builds : List BuildInfo) (h : a.builders ≠ .all ∨ a.apps ≠ .all) :
    plainTargets a builds = some ((builds.filter (selected a)).map (·.out)) := by
  unfold plainTargets
  split
  · rename_i h1 h2
    rcases h with h | h
    · exact absurd h1 h
    · exact absurd h2 h
  · rfl

theorem plainTargets_all {a : Args} (builds : List BuildInfo) (hb : a.builders = .all) (ha : a.apps = .all) :
    plainTargets a builds = none := by
  unfold plainTargets
  rw [hb, ha]

theorem selected_all {a : Args} (hb : a.builders = .all) (ha : a.apps = .all) (i : BuildInfo) : selected a i = true := by
  unfold selected
  rw [hb, ha]
  rfl

theorem selector_cases (a : Args) : (a.builders = .all ∧ a.apps = .all) ∨ (a.builders ≠ .all ∨ a.apps ≠ .all) := by
  by_cases h1 : a.builders = .all
  · by_cases h2 : a.apps = .all
    · exact .inl ⟨h1, h2⟩
    · exact .inr (.inr h2)
  · exact .inr (.inl h1)

/-! ## the targets stay within the selection -/

/-- with a selector (`--builders` and/or `--apps`): ninja gets exactly the `out` of the
    configured builds matching the selection — and is not started at all when there is none (so it
    never falls back to "everything in the file") -/
theorem targets_exact_of_selector (st : Settings) (a : Args) (fl : Flags) (builds : List BuildInfo) (ninjaRc : Nat)
    (cmdFails : String → Bool) (hG : fl.generateOnly = false) (hsel : a.builders ≠ .all ∨ a.apps ≠ .all) :
    runBuild st a fl builds none ninjaRc cmdFails =
      if (builds.filter (selected a)).map (·.out) = [] then ([], 0)
      else ([.ninja (flagArgs st a fl ++ (builds.filter (selected a)).map (·.out))], rcStatus ninjaRc) := by
  rw [runBuild_plain st a fl builds ninjaRc cmdFails hG, plainTargets_selector builds hsel]
  simp only [Option.some.injEq, Option.getD_some]

theorem targets_none_of_all (st : Settings) (a : Args) (fl : Flags) (builds : List BuildInfo) (ninjaRc : Nat)
    (cmdFails : String → Bool) (hG : fl.generateOnly = false) (hb : a.builders = .all) (ha : a.apps = .all) :
    runBuild st a fl builds none ninjaRc cmdFails = ([.ninja (flagArgs st a fl)], rcStatus ninjaRc) ∧
    ∀ i : BuildInfo, selected a i = true := by
  refine ⟨?_, selected_all hb ha⟩
  rw [runBuild_plain st a fl builds ninjaRc cmdFails hG, plainTargets_all builds hb ha]
  simp

/-- every argument after the flags of a ninja invocation of a plain `laze build` is the
    `out` of a configured build selected by `--builders`/`--apps` -/
theorem targets_within_selection {st : Settings} {a : Args} {fl : Flags} {builds : List BuildInfo} {ninjaRc : Nat}
    {cmdFails : String → Bool} {argv : List String}
    (h : Spawn.ninja argv ∈ (runBuild st a fl builds none ninjaRc cmdFails).1) :
    ∃ targets, argv = flagArgs st a fl ++ targets ∧
      ∀ p ∈ targets, ∃ i ∈ builds, selected a i = true ∧ p = i.out := by
  rcases runBuild_plain_cases st a fl builds ninjaRc cmdFails with ⟨_, e⟩ | ⟨_, _, e⟩ <;> rw [e] at h
  · cases h
  · refine ⟨_, Spawn.ninja.inj (List.mem_singleton.mp h), ?_⟩
    rcases selector_cases a with ⟨hb, ha⟩ | hsel
    · rw [plainTargets_all builds hb ha]
      exact List.forall_mem_nil _
    · rw [plainTargets_selector builds hsel]
      intro p hp
      obtain ⟨i, hi, rfl⟩ := List.mem_map.mp hp
      exact ⟨i, (List.mem_filter.mp hi).1, (List.mem_filter.mp hi).2, rfl⟩

/-! ## the targets cover the selection -/

/-- every selected configured build is built: its `out` is one of the targets of the
    ninja invocation — or no selector was given and ninja runs without targets (= everything) -/
theorem targets_cover {st : Settings} {a : Args} {fl : Flags} {builds : List BuildInfo} {ninjaRc : Nat}
    {cmdFails : String → Bool} (hG : fl.generateOnly = false) {i : BuildInfo} (hi : i ∈ builds)
    (hs : selected a i = true) :
    (∃ targets, runBuild st a fl builds none ninjaRc cmdFails =
        ([.ninja (flagArgs st a fl ++ targets)], rcStatus ninjaRc) ∧ i.out ∈ targets) ∨
    (a.builders = .all ∧ a.apps = .all ∧
      runBuild st a fl builds none ninjaRc cmdFails = ([.ninja (flagArgs st a fl)], rcStatus ninjaRc)) := by
  rcases selector_cases a with ⟨hb, ha⟩ | hsel
  · exact .inr ⟨hb, ha, (targets_none_of_all st a fl builds ninjaRc cmdFails hG hb ha).1⟩
  · left
    have hm : i.out ∈ (builds.filter (selected a)).map (·.out) :=
      List.mem_map.mpr ⟨i, List.mem_filter.mpr ⟨hi, hs⟩, rfl⟩
    refine ⟨_, ?_, hm⟩
    rw [targets_exact_of_selector st a fl builds ninjaRc cmdFails hG hsel, if_neg (List.ne_nil_of_mem hm)]

/-! ## flags, `-G`, exit status, clean -/

/-- whenever a plain `laze build` starts ninja, the arguments are
    `-f <generated file> [-v] [-j n] -k <keep-going> <targets>` -/
theorem passes_flags {st : Settings} {a : Args} {fl : Flags} {builds : List BuildInfo} {ninjaRc : Nat}
    {cmdFails : String → Bool} {argv : List String}
    (h : Spawn.ninja argv ∈ (runBuild st a fl builds none ninjaRc cmdFails).1) :
    argv = ["-f", ninjaFile st a.mode] ++ (if fl.verbose > 0 then ["-v"] else []) ++
      (match fl.jobs with | some j => ["-j", toString j] | none => []) ++
      ["-k", toString fl.keepGoing] ++ (plainTargets a builds).getD [] ∧
    (runBuild st a fl builds none ninjaRc cmdFails).1 = [.ninja argv] := by
  rcases runBuild_plain_cases st a fl builds ninjaRc cmdFails with ⟨_, e⟩ | ⟨_, _, e⟩ <;> rw [e] at h ⊢
  · cases h
  · cases Spawn.ninja.inj (List.mem_singleton.mp h)
    exact ⟨rfl, rfl⟩

/-- the ninja invocation before a task (`laze build <task>`): `-f <generated file> [-v] [-j n]
    <targets>`; `-k` is not passed (`--keep-going` then counts failing tasks) -/
theorem passes_flags_task {st : Settings} {a : Args} {fl : Flags} {builds : List BuildInfo} {t : String}
    {args : List String} {ninjaRc : Nat} {cmdFails : String → Bool} {argv : List String}
    (h : Spawn.ninja argv ∈ (runBuild st a fl builds (some (t, args)) ninjaRc cmdFails).1) :
    argv = ["-f", ninjaFile st a.mode] ++ (if fl.verbose > 0 then ["-v"] else []) ++
      (match fl.jobs with | some j => ["-j", toString j] | none => []) ++
      ((C16.runnable a builds t).filter (fun p => p.2.build)).map (fun p => p.1.out) := by
  rcases C16.sh_mem_runBuild h with h | h
  · cases C16.pre_mem h
    simp only [ninjaArgv, decide_eq_true_eq, List.append_nil, Option.getD_some]
    rfl
  · exact absurd rfl (C16.runTasks_no_ninja h argv)

/-- `-G` with a task: ninja is not started either -/
theorem no_ninja_with_G_task (st : Settings) (a : Args) (fl : Flags) (builds : List BuildInfo) (t : String)
    (args : List String) (ninjaRc : Nat) (cmdFails : String → Bool) (hG : fl.generateOnly = true) :
    ∀ s ∈ (runBuild st a fl builds (some (t, args)) ninjaRc cmdFails).1, ∀ argv, s ≠ .ninja argv :=
  C16.no_build (.inr hG)

/-- a plain `laze build` exits non-zero iff it started ninja and ninja failed -/
theorem rc_nonzero_iff (st : Settings) (a : Args) (fl : Flags) (builds : List BuildInfo) (ninjaRc : Nat)
    (cmdFails : String → Bool) :
    (runBuild st a fl builds none ninjaRc cmdFails).2 ≠ 0 ↔
      (∃ argv, Spawn.ninja argv ∈ (runBuild st a fl builds none ninjaRc cmdFails).1) ∧ ninjaRc ≠ 0 := by
  rcases runBuild_plain_cases st a fl builds ninjaRc cmdFails with ⟨_, e⟩ | ⟨_, _, e⟩ <;> rw [e]
  · exact ⟨fun h => absurd rfl h, fun ⟨⟨_, h⟩, _⟩ => absurd h List.not_mem_nil⟩
  · exact (rcStatus_ne_zero ninjaRc).trans ⟨fun h => ⟨⟨_, List.mem_singleton_self _⟩, h⟩, fun h => h.2⟩

/-- `ExitStatus::code()` → verdict: only the exit code `0` counts as success; a ninja killed by a signal (no exit code) and every
    non-zero code are failures -/
theorem ninjaVerdict_zero_iff (c : Option Int) : ninjaVerdict c = 0 ↔ c = some 0 := by
  cases c with
  | none => simp [ninjaVerdict]
  | some v =>
    by_cases h : v = 0
    · subst h; simp [ninjaVerdict]
    · have hn : v.natAbs ≠ 0 := by omega
      simp [ninjaVerdict, h, hn]

/-- `rc_nonzero_iff` in the wording of the property: given a ninja spawn, status ≠ 0 ↔ `ninjaRc ≠ 0` -/
theorem rc_nonzero_iff' {st : Settings} {a : Args} {fl : Flags} {builds : List BuildInfo} {ninjaRc : Nat}
    {cmdFails : String → Bool} {argv : List String}
    (h : Spawn.ninja argv ∈ (runBuild st a fl builds none ninjaRc cmdFails).1) :
    (runBuild st a fl builds none ninjaRc cmdFails).2 ≠ 0 ↔ ninjaRc ≠ 0 := by
  rw [rc_nonzero_iff]
  exact ⟨fun h' => h'.2, fun h' => ⟨⟨argv, h⟩, h'⟩⟩

/-- a plain `laze build` that started ninja exits non-zero whenever ninja did not exit with code 0 — including when
    it was killed by a signal -/
theorem rc_nonzero_of_killed_or_failed {st : Settings} {a : Args} {fl : Flags} {builds : List BuildInfo} (code : Option Int)
    {cmdFails : String → Bool} {argv : List String}
    (h : Spawn.ninja argv ∈ (runBuild st a fl builds none (ninjaVerdict code) cmdFails).1) :
    (runBuild st a fl builds none (ninjaVerdict code) cmdFails).2 ≠ 0 ↔ code ≠ some 0 :=
  (rc_nonzero_iff' h).trans (not_congr (ninjaVerdict_zero_iff code))

/-- `laze clean [--unused]`: exactly one process, `ninja -f <file> [-v] -t clean|cleandead`,
    on the file `laze build` generates for the same mode; non-zero status iff ninja failed -/
theorem clean_argv (st : Settings) (mode : Mode) (unused : Bool) (verbose : Nat) (ninjaRc : Nat) :
    runClean st mode unused verbose ninjaRc =
      ([.ninja (["-f", ninjaFile st mode] ++ (if verbose > 0 then ["-v"] else []) ++
          ["-t", if unused then "cleandead" else "clean"])], if ninjaRc == 0 then 0 else 1) ∧
    ((runClean st mode unused verbose ninjaRc).2 ≠ 0 ↔ ninjaRc ≠ 0) := by
  constructor
  · unfold runClean ninjaArgv
    simp
  · exact rcStatus_ne_zero ninjaRc

/-- clean and build use the same file -/
theorem clean_same_file {st : Settings} {a : Args} {fl : Flags} {builds : List BuildInfo} {ninjaRc : Nat}
    {cmdFails : String → Bool} {argv : List String} (unused : Bool) (verbose rc : Nat)
    (h : Spawn.ninja argv ∈ (runBuild st a fl builds none ninjaRc cmdFails).1) :
    (∃ r1, argv = "-f" :: ninjaFile st a.mode :: r1) ∧
    (∃ r2, (runClean st a.mode unused verbose rc).1 = [.ninja ("-f" :: ninjaFile st a.mode :: r2)]) := by
  obtain ⟨h1, _⟩ := passes_flags h
  constructor
  · rw [h1]; exact ⟨_, rfl⟩
  · rw [(clean_argv st a.mode unused verbose rc).1]; exact ⟨_, rfl⟩

/-! ## examples: a file with two configured builds -/

def exBuilds : List BuildInfo :=
  [ { builder := "b1", app := "app", out := "build/out/b1/app/app.elf", modules := [], globalFlat := [],
      moduleFlat := [], tasks := [], entries := [] },
    { builder := "b2", app := "app", out := "build/out/b2/app/app.elf", modules := [], globalFlat := [],
      moduleFlat := [], tasks := [], entries := [] } ]

/-- no selector: everything in the file -/
example : runBuild {} {} {} exBuilds none 0 (fun _ => false) =
    ([.ninja ["-f", "build/build-global.ninja", "-k", "1"]], 0) := by decide +kernel
/-- `--builders b2 -j 4 -k 0 -v`, ninja fails -/
example : runBuild {} { builders := .some ["b2"] } { jobs := some 4, keepGoing := 0, verbose := 1 } exBuilds none 3
    (fun _ => false) =
    ([.ninja ["-f", "build/build-global.ninja", "-v", "-j", "4", "-k", "0", "build/out/b2/app/app.elf"]], 1) := by
  decide +kernel
/-- a selection without configured build (e.g. a stale or cached file): ninja is not started -/
example : runBuild {} { builders := .some ["b3"] } {} exBuilds none 0 (fun _ => false) = ([], 0) := by decide +kernel
/-- `--apps app`: both builds -/
example : plainTargets { apps := .some ["app"] } exBuilds =
    some ["build/out/b1/app/app.elf", "build/out/b2/app/app.elf"] := by decide +kernel
/-- `-G` -/
example : runBuild {} {} { generateOnly := true } exBuilds none 0 (fun _ => false) = ([], 0) := by decide +kernel
/-- `laze clean --unused -v` in local mode -/
example : runClean {} (.local "sub") true 1 0 =
    ([.ninja ["-f", "build/build-local.ninja", "-v", "-t", "cleandead"]], 0) := by decide +kernel
/-- the hypotheses of `targets_exact_of_selector` / `targets_cover` are satisfiable -/
example : ({ builders := .some ["b2"] } : Args).builders ≠ .all ∨ ({ builders := .some ["b2"] } : Args).apps ≠ .all :=
  .inl (by decide)
example : selected { builders := .some ["b2"] } (exBuilds[1]'(by decide)) = true := by decide +kernel

end Laze.C18
