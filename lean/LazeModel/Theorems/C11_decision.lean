import LazeModel.Model.Ctx
import LazeModel.Generated.Decisions
/-! # C11 — the allow/block decision, regenerated from the source

`translators/decisions.py` re-reads `ContextBag::is_allowed` on every run and writes its if/else tree as data. Here the tree is
*evaluated* on an arbitrary pair of list lookups, and `is_allowed_tree_is_model` proves that for EVERY pair the result is the model's
`isAllowedCore` — the function `C11.allow_block_spec`, `order_independent`, `blocked_iff` … are stated about. A change of the Rust
function (a swapped comparison, a dropped branch, a new special case) changes the tree: it either no longer evaluates (`unknown`) or
no longer equals `isAllowedCore`, and this file stops checking. -/
namespace Laze.C11d
open Laze Laze.Generated

/-- what the tree reads: for each list, `none` = the list is absent, `some none` = given but no listed ancestor (`IsAncestor::No`),
    `some (some (name, depth))` = the nearest listed ancestor -/
abbrev Lookup := Option (Option (Name × Nat))

/-- `…_entry` is `IsAncestor::No` both when the list is absent and when nothing on it is an ancestor (`map_or(IsAncestor::No, …)`) -/
def entry (l : Lookup) : Option (Name × Nat) := l.join

def condHolds (a b : Lookup) : ACond → Option Bool
  | .allowSome => some a.isSome
  | .blockSome => some b.isSome
  | .allowYes => some (entry a).isSome
  | .blockYes => some (entry b).isSome
  | .allowNo => some (entry a).isNone
  | .blockNo => some (entry b).isNone
  | .allowDeeper => match entry a, entry b with
    | some (_, ad), some (_, bd) => some (decide (ad > bd))
    | _, _ => none                      -- the Rust variables are only bound inside both `if let … Yes`
  | .unknown _ => none

def retValue (a b : Lookup) : ARet → Option Verdict
  | .block => (entry b).map (fun (n, d) => Verdict.block n d)
  | .allow => (entry a).map (fun (n, d) => Verdict.allow n d)
  | .blocked => some .blocked
  | .allowed => some .allowed
  | .unknown _ => none

/-- result of running a tree: `none` = not interpretable, `some none` = fell through, `some (some v)` = returned `v` -/
def eval (a b : Lookup) : ATree → Option (Option Verdict)
  | .skip => some none
  | .ret r => (retValue a b r).map some
  | .ite c t e => match condHolds a b c with
    | none => none
    | some true => eval a b t
    | some false => eval a b e
  | .seq x y => match eval a b x with
    | none => none
    | some (some v) => some (some v)
    | some none => eval a b y

/-- **translator obligation**: for every pair of lookups, today's `is_allowed` returns what `isAllowedCore` returns -/
theorem is_allowed_tree_is_model (a b : Lookup) :
    isAllowedTree.bind (eval a b) = some (some (isAllowedCore a b)) := by
  -- for each list: absent / given without a listed ancestor / the nearest listed ancestor; the tree computes in every
  -- case but the last
  rcases a with _ | _ | ⟨an, ad⟩ <;> rcases b with _ | _ | ⟨bn, bd⟩
  iterate 8 rfl
  -- both entries are `Yes`: the one comparison of the tree
  simp only [isAllowedTree, Option.bind, eval, condHolds, entry, Option.join, retValue, Option.map, isAllowedCore,
    Option.isSome_some, id_eq]
  by_cases h : ad > bd
  · rw [decide_eq_true h, if_pos h]
  · rw [decide_eq_false h, if_neg h]

/-- **translator obligation**: both entries are looked up with `is_ancestor_in_list` and are `No` when the list is absent -/
theorem is_allowed_lets_reviewed : isAllowedLets =
    ["let allowlist_entry = allowlist.as_ref().map_or(IsAncestor::No, |list| { self.is_ancestor_in_list(context, list) })",
     "let blocklist_entry = blocklist.as_ref().map_or(IsAncestor::No, |list| { self.is_ancestor_in_list(context, list) })"] := rfl

/-! non-vacuity: a tree with the comparison the other way round is not the model; unknown pieces are rejected -/
example : eval (some (some ("a", 2))) (some (some ("b", 1)))
    (.seq (.ite .allowDeeper (.ret .allow) (.ret .block)) .skip) ≠ some (some (isAllowedCore (some (some ("a", 2))) (some (some ("b", 1))))) := by
  decide +kernel
example : eval none none (.ite (.unknown "x") .skip .skip) = none := by decide +kernel

end Laze.C11d
