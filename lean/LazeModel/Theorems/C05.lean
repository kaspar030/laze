import LazeModel.Model.Gen
import LazeModel.Theorems.C04_imports
import LazeModel.Lemmas.Assoc
import LazeModel.Lemmas.BuildEnv
/-! C05 — locality of a module's variables.

  * `local_no_leak`  : changing a module's LOCAL env does not change the env (nor the build
                       deps) computed for any other module.
  * `export_no_leak` : changing a module's EXPORTED env does not change the env of a module whose
                       import closure does not contain it.
  * `stmts_depend_on_env` : the statements of a module depend on its env only through the
                       flattened env, so both results lift to the generated statements
                       (`local_no_leak_stmts`, `export_no_leak_stmts`), and the global env (link
                       command, tasks) is not affected either (`globalEnv_mapModules`). -/
namespace Laze.C05
open Laze Laze.C09 Laze.C04

/-- apply `g` to every selected module (same positions, same provider tables) -/
def mapModules (r : Resolved) (g : Module → Module) : Resolved :=
  { r with modules := r.modules.map g }

/-- replace the module(s) called `n` by `f` of it, at the same position -/
def updateModule (r : Resolved) (n : Name) (f : Module → Module) : Resolved :=
  mapModules r (fun x => if x.name == n then f x else x)

def setLocal (e : Env) (m : Module) : Module := { m with envLocal := e }
def setExport (e : Env) (m : Module) : Module := { m with envExport := e }

/-- `g` keeps everything the import closure reads -/
structure KeepsShape (g : Module → Module) : Prop where
  name : ∀ x, (g x).name = x.name
  imports : ∀ x, (g x).imports = x.imports

/-- what `build_env` reads of a module of the import closure, beside its name -/
def DepView (d d' : Module) : Prop :=
  d'.envExport = d.envExport ∧ d'.contextName = d.contextName ∧ d'.isBuildDep = d.isBuildDep

theorem update_keeps {β : Type _} (n : Name) {f : Module → Module} (φ : Module → β)
    (h : ∀ x, φ (f x) = φ x) (x : Module) : φ (if x.name == n then f x else x) = φ x := by
  split
  · exact h x
  · rfl

theorem keepsShape_update {f : Module → Module} (n : Name) (hf : KeepsShape f) :
    KeepsShape (fun x => if x.name == n then f x else x) :=
  ⟨update_keeps n (·.name) hf.name, update_keeps n (·.imports) hf.imports⟩

theorem keepsShape_setLocal (e : Env) : KeepsShape (setLocal e) :=
  { name := fun _ => rfl, imports := fun _ => rfl }

theorem keepsShape_setExport (e : Env) : KeepsShape (setExport e) :=
  { name := fun _ => rfl, imports := fun _ => rfl }

/-! ## what the generator reads from `Resolved` -/

theorem module?_map (r : Resolved) {g : Module → Module} (hg : KeepsShape g) (k : Name) :
    (mapModules r g).module? k = (r.module? k).map g :=
  find?_map_key Module.name Module.name g hg.name r.modules k

theorem has_map (r : Resolved) {g : Module → Module} (hg : KeepsShape g) :
    (mapModules r g).has = r.has :=
  funext fun k => any_map_key Module.name Module.name g hg.name r.modules k

theorem providersOf_map (r : Resolved) (g : Module → Module) :
    (mapModules r g).providersOf = r.providersOf := rfl

theorem importName_map (r : Resolved) {g : Module → Module} (hg : KeepsShape g) :
    importName (mapModules r g) = importName r := by
  funext d
  cases d <;> simp only [importName, has_map r hg]

theorem importsStep_map (r : Resolved) {g : Module → Module} (hg : KeepsShape g) (rec : IRec) :
    importsStep (mapModules r g) rec = importsStep r rec := by
  funext n seen
  unfold importsStep
  simp only [importName_map r hg, has_map r hg, providersOf_map, module?_map r hg]
  cases r.module? n with
  | none => rfl
  | some m => simp only [Option.map_some, hg.imports]

theorem importsRec_map (r : Resolved) {g : Module → Module} (hg : KeepsShape g) (fuel : Nat) :
    importsRec (mapModules r g) fuel = importsRec r fuel := by
  induction fuel with
  | zero => rfl
  | succ f ih =>
    show importsStep (mapModules r g) (importsRec (mapModules r g) f) = importsStep r (importsRec r f)
    rw [ih, importsStep_map r hg]

theorem importsOf_map (r : Resolved) {g : Module → Module} (hg : KeepsShape g) (n : Name) :
    importsOf (mapModules r g) n = importsOf r n := by
  unfold importsOf
  rw [importsRec_map r hg]
  unfold mapModules
  rw [List.length_map]

theorem importedModules_map (r : Resolved) {g : Module → Module} (hg : KeepsShape g) (x : Module) :
    importedModules (mapModules r g) x = (importedModules r x).map g := by
  unfold importedModules
  rw [importsOf_map r hg, List.map_filterMap]
  exact congrArg (List.filterMap · _) (funext (module?_map r hg))

theorem isContextModule_keep {g : Module → Module} (hg : KeepsShape g) (x : Module) :
    (g x).isContextModule = x.isContextModule := by
  unfold Module.isContextModule
  rw [hg.name]

theorem finishEnv_map (r : Resolved) {g : Module → Module} (hg : KeepsShape g) (m : Module)
    (env : Env) : finishEnv (mapModules r g) m env = finishEnv r m env := by
  unfold finishEnv notifyAllEnv mapModules
  dsimp only
  rw [filter_map_keep g (fun x => !x.isContextModule) (fun x => defineName x.name)
    (fun x => by rw [isContextModule_keep hg]) (fun x => by rw [hg.name])]

theorem buildEnvLoop_map {g : Module → Module} (hn : ∀ d, (g d).name = d.name) (m : Module) :
    ∀ (deps : List Module) (env : Env) (bd : Option (List Name)), (∀ d ∈ deps, DepView d (g d)) →
      buildEnvLoop (deps.map g) m env bd = buildEnvLoop deps m env bd
  | [], _, _, _ => rfl
  | d :: ds, env, bd, h => by
    obtain ⟨h1, h2, h3⟩ := h d List.mem_cons_self
    have hs : depEnvStep m (g d) env = depEnvStep m d env := by
      unfold depEnvStep notifyAppend; rw [h1, hn]
    have hb : addBuildDep m (g d) bd = addBuildDep m d bd := by
      unfold addBuildDep isBuildDepOf; rw [hn, h2, h3]
    rw [List.map_cons, buildEnvLoop, buildEnvLoop, hs, hb]
    split
    · rfl
    · exact buildEnvLoop_map hn m ds _ _ (fun x hx => h x (List.mem_cons_of_mem _ hx))

/-- **what `build_env` of `x` reads of the selection**: names, imports and providers (for the import
    closure), and the `DepView` of the modules of the closure — nothing else of any module -/
theorem buildEnv_mapModules (r : Resolved) {g : Module → Module} (hg : KeepsShape g) (x : Module)
    (genv : Env) (h : ∀ d ∈ importedModules r x, DepView d (g d)) :
    buildEnv (mapModules r g) x genv = buildEnv r x genv := by
  unfold buildEnv
  rw [importedModules_map r hg, buildEnvLoop_map hg.name x _ _ _ h]
  simp only [finishEnv_map r hg]

/-! ## a local variable does not leak -/

theorem mem_update_of_ne {r : Resolved} {n : Name} {f : Module → Module} {x : Module}
    (hx : x ∈ r.modules) (hne : x.name ≠ n) : x ∈ (updateModule r n f).modules := by
  unfold updateModule mapModules
  dsimp only
  refine List.mem_map.2 ⟨x, hx, ?_⟩
  rw [if_neg (by simpa using hne)]

/-- **C05 (local).**  Let `r'` be the selection `r` with the local env of the module called `n`
    replaced by `e` (same position).  Every other selected module `x` is still selected, and its
    env and build deps are the same: `buildEnv r' x genv = buildEnv r x genv`. -/
theorem local_no_leak (r : Resolved) (n : Name) (e : Env) (x : Module) (genv : Env)
    (hx : x ∈ r.modules) (hne : x.name ≠ n) :
    x ∈ (updateModule r n (setLocal e)).modules ∧
      buildEnv (updateModule r n (setLocal e)) x genv = buildEnv r x genv :=
  ⟨mem_update_of_ne hx hne, buildEnv_mapModules r (keepsShape_update n (keepsShape_setLocal e)) x genv
    (fun d _ => by split <;> exact ⟨rfl, rfl, rfl⟩)⟩

/-- the import closures are unchanged as well -/
theorem local_imports_same (r : Resolved) (n : Name) (e : Env) (k : Name) :
    importsOf (updateModule r n (setLocal e)) k = importsOf r k :=
  importsOf_map r (keepsShape_update n (keepsShape_setLocal e)) k

/-- the module itself: only the last layer of its env changes -/
theorem local_own (r : Resolved) (n : Name) (e : Env) (m : Module) (genv : Env) :
    buildEnv (updateModule r n (setLocal e)) (setLocal e m) genv =
      match buildEnvLoop (importedModules r m) m genv none with
      | .error err => .error err
      | .ok p => .ok ((notifyAllEnv r m p.1).merge e, p.2) := by
  rw [updateModule, buildEnv_mapModules r (keepsShape_update n (keepsShape_setLocal e)) _ genv
    (fun d _ => by split <;> exact ⟨rfl, rfl, rfl⟩), buildEnv, buildEnvLoop_eq, buildEnvLoop_eq]
  rfl

/-! ## an exported variable reaches only the importers -/

theorem importedModules_names {r : Resolved} {x d : Module} (h : d ∈ importedModules r x) :
    d.name ∈ importsOf r x.name := by
  unfold importedModules at h
  rcases List.mem_filterMap.1 h with ⟨k, hk, hd⟩
  rw [find?_key (key := Module.name) hd]
  exact hk

/-- `f` keeps what `build_env` reads from other modules, except possibly the exported env -/
structure KeepsButExport (f : Module → Module) : Prop extends KeepsShape f where
  contextName : ∀ x, (f x).contextName = x.contextName
  isBuildDep : ∀ x, (f x).isBuildDep = x.isBuildDep

/-- **C05 (export).**  Let `r'` be `r` with the exported env of the module called `n` replaced by
    `e`.  For every module `x` whose import closure does not contain `n` (i.e. which does not
    transitively use / depend on `n`), env and build deps are unchanged. -/
theorem export_no_leak (r : Resolved) (n : Name) (e : Env) (x : Module) (genv : Env)
    (hni : n ∉ importsOf r x.name) :
    buildEnv (updateModule r n (setExport e)) x genv = buildEnv r x genv :=
  buildEnv_mapModules r (keepsShape_update n (keepsShape_setExport e)) x genv fun d hd => by
    have : d.name ≠ n := fun h => hni (h ▸ importedModules_names hd)
    rw [if_neg (by simpa using this)]
    exact ⟨rfl, rfl, rfl⟩

theorem export_imports_same (r : Resolved) (n : Name) (e : Env) (k : Name) :
    importsOf (updateModule r n (setExport e)) k = importsOf r k :=
  importsOf_map r (keepsShape_update n (keepsShape_setExport e)) k

/-- a module whose import closure does not contain `n` is not `n` itself (the closure ends with the
    module, `imports_self_last`), so it is still selected after the update -/
theorem export_no_leak_mem (r : Resolved) (n : Name) (e : Env) (x : Module)
    (hx : x ∈ r.modules) (hsel : r.module? x.name = some x) (hni : n ∉ importsOf r x.name) :
    x ∈ (updateModule r n (setExport e)).modules := by
  apply mem_update_of_ne hx
  intro hxn
  obtain ⟨pre, hpre, _⟩ := imports_self_last r x hsel
  apply hni
  rw [hpre, ← hxn]
  exact List.mem_append_right _ List.mem_cons_self

/-! ## from envs to statements -/

/-- the statements of a module depend on its env only through the flattened env -/
theorem stmts_depend_on_env (ev : EvalExpr) (st : Settings) (builder : Name) (app : Module)
    (r : Resolved) (rules : List (String × Rule)) (opts : Option VarOpts) (globals : List Name)
    (m : Module) (menv menv' : Env) (bdeps : Option (List Name)) (ls : LoopState)
    (h : moduleFlat opts menv = moduleFlat opts menv') :
    moduleStep ev st builder app r rules opts globals m menv bdeps ls =
      moduleStep ev st builder app r rules opts globals m menv' bdeps ls := by
  unfold moduleStep
  rw [h]

/-- `moduleStep` reads the selection only to know which modules are selected -/
theorem moduleStep_map (ev : EvalExpr) (st : Settings) (builder : Name) (app : Module)
    (r : Resolved) {g : Module → Module} (hg : KeepsShape g) (rules : List (String × Rule))
    (opts : Option VarOpts) (globals : List Name) (x : Module) (menv : Env)
    (bdeps : Option (List Name)) (ls : LoopState) :
    moduleStep ev st builder app (mapModules r g) rules opts globals x menv bdeps ls =
      moduleStep ev st builder app r rules opts globals x menv bdeps ls := by
  unfold moduleStep moduleStmts effSources optionalSourcesOf
  rw [has_map r hg]

theorem globalBuildDeps_map (r : Resolved) {g : Module → Module}
    (hn : ∀ x, (g x).name = x.name) (hb : ∀ x, (g x).isGlobalBuildDep = x.isGlobalBuildDep) :
    globalBuildDeps (mapModules r g) = globalBuildDeps r := by
  unfold globalBuildDeps mapModules
  dsimp only
  exact filter_map_keep g (fun x => x.isGlobalBuildDep) (fun x => x.name) hb hn r.modules

/-- the global env (link command, tasks) reads only names and global envs of the selection -/
theorem globalEnv_mapModules (st : Settings) (b : Bag) (builder : Name) (app : Module)
    (r : Resolved) (cli : Cli) {g : Module → Module} (hg : KeepsShape g)
    (hglob : ∀ x, (g x).envGlobal = x.envGlobal) :
    globalEnv st b builder app (mapModules r g) cli = globalEnv st b builder app r cli := by
  unfold globalEnv mapModules
  dsimp only
  rw [← List.map_reverse, List.foldl_map, filter_map_keep g (fun x => !x.isContextModule) (fun x => x.name)
    (fun x => by rw [isContextModule_keep hg]) hg.name]
  simp only [hglob]

/-- **C05 (local), statement level.**  After changing the local env of the module called `n`, for
    every other selected module `x`: the module env and build deps are the same, hence — from the
    same loop state — `moduleStep` produces exactly the same statements (compile statements,
    objects, build-dep files) and the same flattened env; and the global env is the same. (In a run the loop state that `x`
    starts from differs once `n`'s own statements have changed: the entries already there, the files registered. What the
    theorem gives is that `x`'s step is the same FUNCTION of that state.) -/
theorem local_no_leak_stmts (ev : EvalExpr) (st : Settings) (b : Bag) (builder : Name)
    (app : Module) (cli : Cli) (r : Resolved) (rules : List (String × Rule)) (opts : Option VarOpts)
    (globals : List Name) (n : Name) (e : Env) (x : Module) (genv : Env) (ls : LoopState)
    (hne : x.name ≠ n) (hx : x ∈ r.modules) :
    let r' := updateModule r n (setLocal e)
    x ∈ r'.modules ∧
    globalEnv st b builder app r' cli = globalEnv st b builder app r cli ∧
    globalBuildDeps r' = globalBuildDeps r ∧
    (match buildEnv r' x genv, buildEnv r x genv with
      | .ok p', .ok p =>
          p' = p ∧ moduleStep ev st builder app r' rules opts globals x p'.1 p'.2 ls =
            moduleStep ev st builder app r rules opts globals x p.1 p.2 ls
      | .error e', .error e => e' = e
      | _, _ => False) := by
  intro r'
  have hshape := keepsShape_update n (keepsShape_setLocal e)
  refine ⟨mem_update_of_ne hx hne, ?_, ?_, ?_⟩
  · exact globalEnv_mapModules st b builder app r cli hshape (update_keeps n (·.envGlobal) fun _ => rfl)
  · exact globalBuildDeps_map r hshape.name (update_keeps n (·.isGlobalBuildDep) fun _ => rfl)
  · have hb : buildEnv r' x genv = buildEnv r x genv := (local_no_leak r n e x genv hx hne).2
    rw [hb]
    cases buildEnv r x genv with
    | error e0 => rfl
    | ok p => exact ⟨rfl, moduleStep_map ev st builder app r hshape rules opts globals x p.1 p.2 ls⟩

/-- **C05 (export), statement level.**  After changing the exported env of the module called `n`,
    for every module `x` that does not (transitively) import `n`: same env, same build deps, same
    statements from the same loop state; and the global env is the same. -/
theorem export_no_leak_stmts (ev : EvalExpr) (st : Settings) (b : Bag) (builder : Name)
    (app : Module) (cli : Cli) (r : Resolved) (rules : List (String × Rule)) (opts : Option VarOpts)
    (globals : List Name) (n : Name) (e : Env) (x : Module) (genv : Env) (ls : LoopState)
    (hni : n ∉ importsOf r x.name) :
    let r' := updateModule r n (setExport e)
    globalEnv st b builder app r' cli = globalEnv st b builder app r cli ∧
    globalBuildDeps r' = globalBuildDeps r ∧
    (match buildEnv r' x genv, buildEnv r x genv with
      | .ok p', .ok p =>
          p' = p ∧ moduleStep ev st builder app r' rules opts globals x p'.1 p'.2 ls =
            moduleStep ev st builder app r rules opts globals x p.1 p.2 ls
      | .error e', .error e => e' = e
      | _, _ => False) := by
  intro r'
  have hshape := keepsShape_update n (keepsShape_setExport e)
  refine ⟨?_, ?_, ?_⟩
  · exact globalEnv_mapModules st b builder app r cli hshape (update_keeps n (·.envGlobal) fun _ => rfl)
  · exact globalBuildDeps_map r hshape.name (update_keeps n (·.isGlobalBuildDep) fun _ => rfl)
  · have hb : buildEnv r' x genv = buildEnv r x genv := export_no_leak r n e x genv hni
    rw [hb]
    cases buildEnv r x genv with
    | error e0 => rfl
    | ok p => exact ⟨rfl, moduleStep_map ev st builder app r hshape rules opts globals x p.1 p.2 ls⟩

/-! ## concrete, non-vacuous instances (the selection of `C04_imports.lean`: `app` imports `lib`) -/
section Examples

/-- changing `lib`'s local env: `app` sees nothing of it … -/
example := local_no_leak exR "lib" [("CFLAGS", .list ["-DCHANGED"])] exApp [] List.mem_cons_self
  (by decide +kernel)
example : (buildEnv (updateModule exR "lib" (setLocal [("CFLAGS", .list ["-DCHANGED"])])) exApp
    []).toOption.map (fun p => p.1.get "CFLAGS") = some none := by decide +kernel
/-- … while `lib` itself does -/
example : (buildEnv (updateModule exR "lib" (setLocal [("CFLAGS", .list ["-DCHANGED"])]))
    (setLocal [("CFLAGS", .list ["-DCHANGED"])] exLib) []).toOption.map (fun p => p.1.get "CFLAGS") =
      some (some (.list ["-DCHANGED"])) := by decide +kernel

/-- changing `app`'s exported env: `lib` does not import `app`, so it is unaffected … -/
example : "app" ∉ importsOf exR exLib.name := by decide +kernel
example := export_no_leak exR "app" [("INC", .list ["-Inew"])] exLib [] (by decide +kernel)
/-- … but the importer hypothesis is needed: changing `lib`'s exports does change `app`'s env -/
example : (buildEnv (updateModule exR "lib" (setExport [("INC", .list ["-Inew"])])) exApp
    []).toOption.map (fun p => p.1.get "INC") ≠
    (buildEnv exR exApp []).toOption.map (fun p => p.1.get "INC") := by decide +kernel

end Examples

end Laze.C05
