import LazeModel.Model.Select
import LazeModel.Generated.Decisions
/-! # C10 / C18 / C08 — `Selector`, regenerated from the source

`--builders` / `--apps` are `Selector`s: `selects` filters tuples (C10 `apps_is_filter`, C18 `targets_within_selection`, C16) and
`is_superset` decides whether a cache written for a wider selection may serve a narrower request (C08). `translators/decisions.py`
re-reads both functions on every run as rows; the theorems prove the rows compute the model's `Selector.selects` /
`Selector.isSuperset` for every selector and value. -/
namespace Laze.C10sel
open Laze Laze.Generated

def patMatches : SPat → Selector → Option Bool
  | .all, .all => some true
  | .all, .some _ => some false
  | .some, .some _ => some true
  | .some, .all => some false
  | .any, _ => some true
  | .unknown _, _ => none

def supersetValue (s o : Selector) : SRes → Option Bool
  | .true => some true
  | .false => some false
  | .setSuperset => match s, o with
    | .some a, .some b => some (b.all a.contains)       -- `set.is_superset(other_set)`
    | _, _ => none
  | .contains => none
  | .unknown _ => none

def interpSuperset (s o : Selector) : List (SPat × SPat × SRes) → Option Bool
  | [] => none
  | (ps, po, r) :: rest =>
    match patMatches ps s, patMatches po o with
    | some true, some true => supersetValue s o r
    | some _, some _ => interpSuperset s o rest
    | _, _ => none

/-- **translator obligation**: today's `Selector::is_superset` is the model's `Selector.isSuperset` for every pair -/
theorem selector_superset_is_model (s o : Selector) :
    selectorSupersetArms.bind (interpSuperset s o) = some (s.isSuperset o) := by
  cases s <;> cases o <;> rfl

def selectsValue (s : Selector) (v : String) : SRes → Option Bool
  | .true => some true
  | .false => some false
  | .contains => match s with
    | .some l => some (l.contains v)                     -- `set.contains(value)`
    | .all => none
  | .setSuperset => none
  | .unknown _ => none

def interpSelects (s : Selector) (v : String) : List (SPat × SRes) → Option Bool
  | [] => none
  | (p, r) :: rest =>
    match patMatches p s with
    | some true => selectsValue s v r
    | some false => interpSelects s v rest
    | none => none

/-- **translator obligation**: today's `Selector::selects` is the model's `Selector.selects` for every selector and value -/
theorem selector_selects_is_model (s : Selector) (v : String) :
    selectorSelectsArms.bind (interpSelects s v) = some (s.selects v) := by
  cases s <;> rfl

example : interpSelects (.some ["a"]) "b" [(.any, .true)] ≠ some ((Selector.some ["a"]).selects "b") := by decide +kernel
example : interpSuperset .all .all [(.unknown "x", .any, .true)] = none := by decide +kernel

end Laze.C10sel
