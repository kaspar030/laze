import LazeModel.Generated.Containers
/-! C09 — generation is deterministic: the reviewed table of unordered containers and the
    obligation that the inventory regenerated from /repo/src on every run is covered by it.
    The order-insensitivity theorems for the iterations the table classifies as `pointwise`
    are in C09_perm.lean. -/
namespace Laze.C09
open Laze

inductive Class where
  | lookupOnly     -- only membership / get / insert: iteration order cannot be observed
  | pointwise      -- iterated, but every key is treated independently of the others
  | unused
  deriving Repr, DecidableEq

/-- reviewed classification of every unordered container (file, enclosing item, flavour) -/
def reviewed : List ((String × String × String) × Class × String) := [
  (("build.rs", "fn new", "im_rc::HashMap"), Class.lookupOnly, "resolver sets/maps: contains/get/entry only; iterated only for trace text and to fill the providers IndexMap, which is read by get"),
  (("build.rs", "fn new", "im_rc::HashSet"), Class.lookupOnly, "resolver sets/maps: contains/get/entry only; iterated only for trace text and to fill the providers IndexMap, which is read by get"),
  (("build.rs", "struct ResolverState", "im_rc::HashMap"), Class.lookupOnly, "resolver sets/maps: contains/get/entry only; iterated only for trace text and to fill the providers IndexMap, which is read by get"),
  (("build.rs", "struct ResolverState", "im_rc::HashSet"), Class.lookupOnly, "resolver sets/maps: contains/get/entry only; iterated only for trace text and to fill the providers IndexMap, which is read by get"),
  (("data.rs", "fn convert_module", "std::collections::HashMap"), Class.lookupOnly, "defaults maps by document index: insert/get"),
  (("data.rs", "fn convert_tasks", "std::collections::HashMap"), Class.pointwise, "task tables: iterated to insert into an IndexMap (final table is pointwise determined; only BuildInfo.tasks order depends on it, which is not in the ninja/info files) and for ::task:: provides/conflicts (per-name tables)"),
  (("data.rs", "fn get_defaults", "std::collections::HashMap"), Class.lookupOnly, "defaults maps by document index: insert/get"),
  (("data.rs", "fn process_removes", "std::collections::HashSet"), Class.lookupOnly, "contains only"),
  (("data.rs", "struct YamlContext", "im::HashMap"), Class.pointwise, "var_options: get per variable; iteration only in the from: loop (result pointwise, error choice only) and when inheriting (collect into a map)"),
  (("data.rs", "struct YamlContext", "std::collections::HashMap"), Class.pointwise, "tasks: see convert_tasks"),
  (("data.rs", "struct YamlFile", "std::collections::HashMap"), Class.lookupOnly, "defaults: get by the keys module and app"),
  (("data.rs", "struct YamlModule", "std::collections::HashMap"), Class.pointwise, "tasks: see convert_tasks"),
  (("data.rs", "struct YamlRule", "std::collections::HashMap"), Class.unused, "options: never read"),
  (("download.rs", "fn handle_module", "im::HashMap"), Class.lookupOnly, "flattened env: get/contains_key (and collect into another map)"),
  (("download.rs", "fn patch", "im::HashMap"), Class.lookupOnly, "flattened env: get/contains_key (and collect into another map)"),
  (("download.rs", "fn render", "im::HashMap"), Class.lookupOnly, "flattened env: get/contains_key (and collect into another map)"),
  (("model/context.rs", "fn collect_tasks", "im::HashMap"), Class.lookupOnly, "flattened env: get/contains_key (and collect into another map)"),
  (("model/context.rs", "fn task_handle_required_vars", "im::HashMap"), Class.lookupOnly, "flattened env: get/contains_key (and collect into another map)"),
  (("model/context.rs", "struct Context", "im::HashMap"), Class.pointwise, "provided: per-feature IndexSets; merge_provides maps every entry independently"),
  (("model/context.rs", "struct Context", "std::collections::HashMap"), Class.pointwise, "tasks: see convert_tasks"),
  (("model/context_bag.rs", "fn add_module", "im::HashMap"), Class.pointwise, "provided: entry(name).insert"),
  (("model/context_bag.rs", "struct ContextBag", "std::collections::HashMap"), Class.lookupOnly, "context_map: name -> index"),
  (("model/module.rs", "fn get_imports_recursive", "std::collections::HashSet"), Class.lookupOnly, "seen set: contains/insert"),
  (("model/module.rs", "fn new", "std::collections::HashMap"), Class.pointwise, "tasks: see convert_tasks"),
  (("model/module.rs", "struct Module", "std::collections::HashMap"), Class.pointwise, "tasks: see convert_tasks"),
  (("model/rule.rs", "fn to_ninja", "im::HashMap"), Class.lookupOnly, "flattened env: get/contains_key (and collect into another map)"),
  (("model/rule.rs", "struct Rule", "std::collections::HashMap"), Class.unused, "options: never read"),
  (("model/shared.rs", "fn apply_env", "im::HashMap"), Class.lookupOnly, "flattened env: get/contains_key (and collect into another map)"),
  (("model/shared.rs", "fn expand", "im::HashMap"), Class.lookupOnly, "flattened env: get/contains_key (and collect into another map)"),
  (("model/task.rs", "fn _with_env", "im::HashMap"), Class.lookupOnly, "flattened env: get/contains_key (and collect into another map)"),
  (("model/task.rs", "fn expand_export", "im::HashMap"), Class.lookupOnly, "flattened env: get/contains_key (and collect into another map)"),
  (("model/task.rs", "fn with_env", "im::HashMap"), Class.lookupOnly, "flattened env: get/contains_key (and collect into another map)"),
  (("model/task.rs", "fn with_env_eval", "im::HashMap"), Class.lookupOnly, "flattened env: get/contains_key (and collect into another map)"),
  (("nested_env/expand.rs", "fn expand", "im::HashMap"), Class.lookupOnly, "flattened env: get/contains_key (and collect into another map)"),
  (("nested_env/expand.rs", "fn expand_eval", "im::HashMap"), Class.lookupOnly, "flattened env: get/contains_key (and collect into another map)"),
  (("nested_env/expand.rs", "fn expand_keep_escapes", "im::HashMap"), Class.lookupOnly, "flattened env: get/contains_key (and collect into another map)"),
  (("nested_env/expand.rs", "fn expand_recursive", "im::HashMap"), Class.lookupOnly, "flattened env: get/contains_key (and collect into another map)"),
  (("nested_env/mod.rs", "fn expand_envkey", "im::HashMap"), Class.lookupOnly, "flattened env: get/contains_key (and collect into another map)"),
  (("nested_env/mod.rs", "fn flatten", "im::HashMap"), Class.lookupOnly, "flattened env: get/contains_key (and collect into another map)"),
  (("nested_env/mod.rs", "fn flatten_with_opts", "im::HashMap"), Class.lookupOnly, "flattened env: get/contains_key (and collect into another map)"),
  (("nested_env/mod.rs", "fn flatten_with_opts_option", "im::HashMap"), Class.lookupOnly, "flattened env: get/contains_key (and collect into another map)"),
  (("nested_env/mod.rs", "fn new", "im::HashMap"), Class.pointwise, "Env: merge/flatten/expand treat every key independently (theorems merge_get, merge_perm)"),
  (("nested_env/mod.rs", "struct Env", "im::HashMap"), Class.pointwise, "Env: merge/flatten/expand treat every key independently (theorems merge_get, merge_perm)"),
  (("ninja/mod.rs", "fn expand", "im::HashMap"), Class.lookupOnly, "flattened env: get/contains_key (and collect into another map)")
]

/-- translator obligation: every unordered container found in the source today is in the reviewed
    table. A new HashMap/HashSet (or a reviewed ordered container turned unordered) breaks this. -/
theorem containers_reviewed :
    Generated.containers.all (fun c => reviewed.any (fun r => r.1 == c)) = true := by
  decide +kernel

/-- no container is classified order-sensitive (there is no such class); non-vacuity: the table is non-empty -/
theorem reviewed_nonempty : reviewed.length > 0 := by decide +kernel

end Laze.C09
