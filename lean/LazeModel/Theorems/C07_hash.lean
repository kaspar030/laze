import LazeModel.Generated.RuleHash
import LazeModel.Theorems.C07
/-! # C07 / C06 — translator obligations on what a rule's name is a hash of

`translators/rulehash.py` reads `impl Hash for NinjaRule`, `impl Display for NinjaRule`, `struct NinjaRule`, `NinjaRule::get_hash`
and `utils::calculate_hash` from /repo/src on every run. The model's `NinjaRule.hash` (Model/Ninja.lean) spells out the hash
*input*; `C07.hashInj` proves that equal model hashes force equal name, command, description, deps, rspfile, rspfile_content, pool
and `always`, and `C06.rule_names_functional` that two rules with one hashed name print one block. Both rest on the source hashing
what the model hashes and printing nothing it does not hash. That is what is required here of the source text. -/
namespace Laze.C07hash
open Laze

/-- reviewed: the hashed items of `impl Hash for NinjaRule`, with the model's counterpart -/
def reviewedHashed : List ((String × String) × String) := [
  (("name", ""), "enc r.name"),
  (("command", ""), "enc r.command (the expanded command, `export` prefix included: `NinjaRule::expand` folds it into `command`)"),
  (("description", ""), "optS r.description"),
  (("deps", "if let NinjaRuleDeps::GCC(_) = self.deps"), "optS r.deps: the discriminant, hashed only for GCC"),
  (("pool", "if self.pool.is_some()"), "optS r.pool"),
  (("always", "if self.always"), "`|always` suffix when set"),
  (("rspfile", ""), "optS r.rspfile"),
  (("rspfile_content", ""), "optS r.rspfileContent"),
  (("deps.payload", "match deps"), "optS r.deps: the depfile text")
]

/-- reviewed: what a rule block prints (`NinjaRule.render` prints exactly these) -/
def reviewedPrinted : List String := ["name", "command", "description", "deps", "rspfile", "rspfile_content", "pool"]

/-- reviewed: fields of the struct. `export` is consumed by `expand` (folded into `command`) and neither hashed nor printed;
    `always` is hashed and reaches the *build statements* (`| ALWAYS`), not the rule block. A new field has to be classified. -/
def reviewedFields : List String := ["name", "command", "description", "export", "deps", "rspfile", "rspfile_content", "pool", "always"]

/-- OBLIGATION: the source hashes exactly the reviewed items, in the reviewed order and under the reviewed guards -/
theorem rule_hash_fields_reviewed : Generated.ruleHashed = reviewedHashed.map (·.1) := rfl

/-- OBLIGATION: the source prints exactly the reviewed fields … -/
theorem rule_printed_fields_reviewed : Generated.rulePrinted = reviewedPrinted := rfl

/-- … and every printed field is hashed (unconditionally, or under a guard that is the same test the printing uses): two rules
    with one hashed name cannot print two different blocks -/
theorem printed_fields_are_hashed :
    Generated.rulePrinted.all (fun f => Generated.ruleHashed.any (fun h => h.1 == f)) = true := by decide +kernel

/-- OBLIGATION: no unclassified field -/
theorem rule_struct_fields_reviewed : Generated.ruleStructFields = reviewedFields := rfl

/-- OBLIGATION: both hashers are `DefaultHasher::new()` — fixed keys, the same value in every process (C09); a `RandomState` would
    make every hashed rule name and object path differ from run to run -/
theorem hashers_have_fixed_keys :
    Generated.hasherCtors = [("NinjaRule::get_hash", "DefaultHasher::new()"), ("utils::calculate_hash", "DefaultHasher::new()")] := rfl

/-- the model's hash input mentions exactly the reviewed fields: changing any one of them changes the token (a restatement of
    `C07.hashInj` field by field, kept here next to the table it justifies) -/
theorem model_hash_covers_reviewed (r1 r2 : NinjaRule) (h : r1.hash = r2.hash) :
    r1.name = r2.name ∧ r1.command = r2.command ∧ r1.description = r2.description ∧ r1.deps = r2.deps ∧
    r1.rspfile = r2.rspfile ∧ r1.rspfileContent = r2.rspfileContent ∧ r1.pool = r2.pool ∧ r1.always = r2.always :=
  C07.hashInj r1 r2 h

end Laze.C07hash
