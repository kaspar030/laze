import LazeModel.Generated.ExecuteOrder
import LazeModel.Model.Cache

/-! # C08 — translator obligations: the order of disk effects in `Generator::execute`, and the tests of the cache reader

`translators/steporder.py` reads /repo/src/generate.rs on every run and writes `Generated/ExecuteOrder.lean`.
The theorems here tie two things in the *source text* to the model in `Model/Cache.lean`:

* the order in which `execute` removes the cache, truncates, writes and flushes the ninja file and (under the
  "no build file changed while loading" guard) writes the cache is the order of the model's micro-steps
  (`Cache.next _ .step`) — this order is what `C08.inv_next` relies on;
* the reader `try_from` performs exactly the reviewed list of tests, each of which is a conjunct of `Cache.keyValid`
  or of `Cache.hit` — deleting one of them (the property's "key change is not noticed") breaks the obligation even
  when no generated scenario exercises that key component. -/

namespace Laze.C08order
open Laze Laze.Cache

/-- the effect on the disk of the micro-step taken from phase `p` (names as the translator prints them) -/
def effectOf : Proc → Option String
  | .statted .. => some "remove_cache"
  | .removed .. => some "ninja_create"
  | .created .. => some "ninja_write"
  | .written .. => some "ninja_flush"
  | .flushed .. => some "to_cache"
  | _ => none

/-- the names are what the steps do (`ok` = the outcome of `load`'s comparison pass: no build file changed while
    it was being loaded) -/
theorem effect_remove_cache (s : State) (k sn st ok) (h : s.proc = .statted k sn st ok) :
    (next s .step).cache = .absent ∧ (next s .step).ninja = s.ninja := by simp [next, h]
theorem effect_ninja_create (s : State) (k sn st ok) (h : s.proc = .removed k sn st ok) :
    (next s .step).ninja = .short ∧ (next s .step).cache = s.cache := by simp [next, h]
theorem effect_ninja_write (s : State) (k sn st ok) (h : s.proc = .created k sn st ok) :
    (next s .step).ninja = s.ninja ∧ (next s .step).cache = s.cache := by simp [next, h]
theorem effect_ninja_flush (s : State) (k sn st ok) (h : s.proc = .written k sn st ok) :
    (next s .step).ninja = .complete sn k ∧ (next s .step).cache = s.cache := by simp [next, h]
/-- `to_cache` is guarded: the record is written when the comparison pass found no change, and nothing is written
    (the cache stays as it is — removed) when it did -/
theorem effect_to_cache (s : State) (k sn st ok) (h : s.proc = .flushed k sn st ok) :
    (ok = true → (next s .step).cache = .record k st sn) ∧ (ok = false → (next s .step).cache = s.cache) ∧
    (next s .step).ninja = s.ninja := by
  cases ok <;> simp [next, h]

/-- the effects of a run of the model from `load` returning to the end, in order -/
def modelEffects : Nat → State → List String
  | 0, _ => []
  | n+1, s => match effectOf s.proc with
      | some e => e :: modelEffects n (next s .step)
      | none => if s.proc == .idle then [] else modelEffects n (next s .step)

def sampleKey : Key := { uuid := 0, partition := none, builders := .all, apps := .all, mode := "global", select := none, disable := none, define := [] }

theorem modelEffects_statted (s : State) (k sn st ok) (h : s.proc = .statted k sn st ok) (n : Nat) :
    modelEffects (n + 6) s = ["remove_cache", "ninja_create", "ninja_write", "ninja_flush", "to_cache"] := by
  obtain ⟨t, nj, c, _⟩ := s
  cases h
  rfl

/-- how a step of `execute` (name, brace depth) counts as a disk effect of a cache-missing run: the removal of the
    cache and the ninja-file steps must be straight-line code (depth 0); `to_cache` must sit exactly one level deep —
    inside the `if load_stats.changed_while_loading { … } else { to_cache }` guard, the model's `if ok`. A `to_cache`
    at any other depth (in particular an unguarded one at depth 0: the protocol `C08.nextNoCheck`) is reported under
    another name, so that the obligation below fails. -/
def sourceEffect (p : String × Nat) : Option String :=
  if p.1 == "to_cache" then (if p.2 == 1 then some "to_cache" else some ("to_cache@depth" ++ toString p.2))
  else if p.2 == 0 && ["remove_cache", "ninja_create", "ninja_write", "ninja_flush", "ninja_flush_unchecked"].contains p.1
  then some p.1 else none

/-- the disk effects of `execute` after `load`, as found in the source now -/
def sourceEffects : List String :=
  (Generated.executeSteps.dropWhile (fun p => p.1 != "load")).filterMap sourceEffect

/-- OBLIGATION (order): the source performs the disk effects in the model's order: cache removed before the ninja file is
    truncated; the ninja file flushed, with the error checked, before the cache is written; the cache written under a
    guard. -/
theorem execute_order_matches_model (s : State) (k sn st ok) (h : s.proc = .statted k sn st ok) :
    sourceEffects = modelEffects 6 s := by
  rw [modelEffects_statted s k sn st ok h 0]
  decide +kernel

/-- the guard is the last thing: nothing is written to the ninja file or the cache after the (guarded) `to_cache` -/
theorem to_cache_is_last :
    ((Generated.executeSteps.dropWhile (fun p => p.1 != "to_cache")).map (·.1)) = ["to_cache"] := by
  decide +kernel

/-- OBLIGATION (order): nothing touches the cache or the ninja file before `load` has returned except the read, and a
    cache hit returns before anything is written -/
theorem execute_prefix :
    (Generated.executeSteps.takeWhile (fun p => p.1 != "load")).map (·.1) = ["try_from", "return_ok_cached"] := by
  decide +kernel

/-- the reviewed table: each test of the reader and the conjunct of the model it is -/
def reviewedTests : List (String × String) := [
  ("reject:cache disabled", "the model's `run` is only used with the cache enabled (the harness never passes --no-cache... it is compared as a miss)"),
  ("open?", "CacheFile.absent => hit = false"),
  ("deserialize?", "CacheFile.torn => hit = false"),
  ("reject:cache from different laze version", "keyValid: r.uuid == k.uuid"),
  ("deserialize?", "CacheFile.torn => hit = false"),
  ("reject:partition values don't match", "keyValid: r.partition == k.partition"),
  ("reject:partitioned builders/apps don't match", "keyValid: partitionOk r k (with a partition: the same builders in the same order, the same set of apps)"),
  ("reject:builders don't match", "keyValid: r.builders.isSuperset k.builders"),
  ("reject:apps don't match", "keyValid: r.apps.isSuperset k.apps"),
  ("reject:unknown builders requested", "keyValid: k.namesKnown"),
  ("reject:unknown apps requested", "keyValid: k.namesKnown"),
  ("reject:local paths don't match", "keyValid: r.mode == k.mode"),
  ("reject:CLI selects don't match", "keyValid: r.select == k.select"),
  ("reject:CLI disables don't match", "keyValid: r.disable == k.disable"),
  ("reject:laze: CLI env doesn't match", "keyValid: r.define == k.define"),
  ("reject:laze: build files have changed", "hit: stampsMatchB st s.tree")
]

/-- OBLIGATION (reader): the tests `try_from` performs today are exactly the reviewed ones, in order -/
theorem try_from_tests_reviewed : Generated.tryFromTests = reviewedTests.map (·.1) := rfl

/-- the reviewed conditions, verbatim: a test that is still present but whose condition was changed is also flagged -/
def reviewedConds : List String := [
  "if generator.disable_cache {",
  "if &build_uuid != build_uuid::get().as_bytes() {",
  "if generator.partitioner != res.partitioner {",
  "if generator.partitioner.is_some() && (!res.builders.same_sequence(&generator.builders) || res.apps != generator.apps) {",
  "if !res.builders.is_superset(&generator.builders) {",
  "if !res.apps.is_superset(&generator.apps) {",
  "if let Selector::Some(builders) = &generator.builders {",
  "if !builders.is_subset(&res.known_builders) {",
  "if let Selector::Some(apps) = &generator.apps {",
  "if !apps.is_subset(&res.known_apps) {",
  "if let GenerateMode::Local(path) = &generator.mode {",
  "if let GenerateMode::Local(cached_path) = &res.mode {",
  "if path != cached_path {",
  "if !res.select.as_ref().eq(&generator.select.as_ref()) {",
  "if !res.disable.as_ref().eq(&generator.disable.as_ref()) {",
  "if res.cli_env_hash != cli_env_hash(generator.cli_env.as_ref()) {",
  "if res.treestate.has_changed() {"
]

theorem try_from_conds_reviewed : Generated.tryFromConds = reviewedConds := rfl

/-- every conjunct of `keyValid` is necessary: dropping any component changes some verdict (so the table above is not
    padded: each listed test distinguishes two keys) -/
theorem keyValid_components_matter :
    keyValid sampleKey { sampleKey with uuid := 1 } = false ∧
    keyValid sampleKey { sampleKey with partition := some "0:2" } = false ∧
    keyValid { sampleKey with builders := .some ["a"] } { sampleKey with builders := .some ["b"] } = false ∧
    keyValid { sampleKey with apps := .some ["a"] } { sampleKey with apps := .some ["b"] } = false ∧
    keyValid sampleKey { sampleKey with mode := "local:d" } = false ∧
    keyValid sampleKey { sampleKey with select := some ["a:b"] } = false ∧
    keyValid sampleKey { sampleKey with disable := some ["m"] } = false ∧
    keyValid sampleKey { sampleKey with define := ["A=1"] } = false ∧
    keyValid sampleKey { sampleKey with namesKnown := false } = false ∧
    keyValid { sampleKey with partition := some "1:2" } { sampleKey with partition := some "1:2", apps := .some ["a"] } = false ∧
    keyValid { sampleKey with partition := some "1:2", builders := .some ["x", "y"] }
             { sampleKey with partition := some "1:2", builders := .some ["y", "x"] } = false ∧
    keyValid { sampleKey with builders := .some ["x", "y"] } { sampleKey with builders := .some ["y", "x"] } = true ∧
    keyValid sampleKey { sampleKey with apps := .some ["a"] } = true ∧
    keyValid sampleKey sampleKey = true := by
  decide +kernel

end Laze.C08order
