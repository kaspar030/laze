import LazeModel.Model.MainRun
import LazeModel.Generated.NinjaCmd
/-! # C18 — the ninja command line, regenerated from the source

`translators/ninjacmd.py` re-reads `NinjaCmd::run` (src/ninja/mod.rs) and `ninja_run` / its call sites (src/main.rs) on every run and
writes them as data (`Generated/NinjaCmd.lean`). Here that data is *run*: `interp` executes the extracted argument program on an
arbitrary `NinjaCmd` value, and `ninjaCmd_run_is_model` proves that for EVERY value the result is the model's `ninjaArgv` — the
function all C18 theorems (`targets_within_selection`, `passes_flags`, `clean_argv`, …) are stated about. A change of the Rust
function that alters what is passed (a dropped flag, a reordered argument, a condition on the length of the target list) changes the
generated program: either it no longer interprets (`unknown`) or it no longer equals `ninjaArgv`, and this file stops checking.

The builder setters / verdict match / call sites of `ninja_run` are compared with reviewed text: `runBuild`/`runClean` model
exactly these three calls (task build: targets, jobs, no `-k`; plain build: targets, jobs, `-k`; clean: `-t clean|cleandead`). -/
namespace Laze.C18n
open Laze Laze.Generated

/-- the fields of `NinjaCmd` that `run` reads -/
structure Cmd where
  file : String
  verbose : Bool
  jobs : Option Nat
  keepGoing : Option Nat
  targets : Option (List String)

/-- does a condition hold for a command (and, inside `for target in targets`, for the current target)? `none`: not interpretable -/
def guardHolds (c : Cmd) : NGuard → Option Bool
  | .verbose => some c.verbose
  | .jobs => some c.jobs.isSome
  | .keepGoing => some c.keepGoing.isSome
  | .targets => some c.targets.isSome
  | .eachTarget => some true
  | .unknown _ => none

def allHold (c : Cmd) : List NGuard → Option Bool
  | [] => some true
  | g :: gs => match guardHolds c g, allHold c gs with
    | some a, some b => some (a && b)
    | _, _ => none

/-- the values one `cmd.arg(..)` contributes -/
def argValues (c : Cmd) (inLoop : Bool) : NArg → Option (List String)
  | .lit s => if inLoop then none else some [s]
  | .buildFile => if inLoop then none else some [c.file]
  | .jobs => if inLoop then none else c.jobs.map (fun j => [toString j])
  | .keepGoing => if inLoop then none else c.keepGoing.map (fun k => [toString k])
  | .target => if inLoop then some (c.targets.getD []) else none      -- once per element of the loop
  | .unknown _ => none

def stepValues (c : Cmd) (s : List NGuard × NArg) : Option (List String) :=
  match allHold c s.1 with
  | none => none
  | some false => some []
  | some true => argValues c (s.1.contains .eachTarget) s.2

def interp (c : Cmd) : List (List NGuard × NArg) → Option (List String)
  | [] => some []
  | s :: rest => match stepValues c s, interp c rest with
    | some a, some b => some (a ++ b)
    | _, _ => none

/-- **translator obligation**: for every `NinjaCmd`, the arguments the Rust function passes (as extracted from today's source) are
    the model's `ninjaArgv` -/
theorem ninjaCmd_run_is_model (c : Cmd) :
    ninjaCmdRun.bind (interp c) = some (ninjaArgv c.file c.verbose c.jobs c.keepGoing c.targets) := by
  obtain ⟨file, verbose, jobs, keepGoing, targets⟩ := c
  cases targets with
  | none => cases verbose <;> cases jobs <;> cases keepGoing <;> rfl
  | some ts =>
    -- the loop over the targets comes last: the interpreter leaves `ts ++ []`
    conv => rhs; rw [← List.append_nil ts]
    cases verbose <;> cases jobs <;> cases keepGoing <;> rfl

/-- the function ends by running the command it assembled (nothing is done to `cmd` after the last argument) -/
theorem ninjaCmd_run_final : ninjaCmdFinal = some "cmd.status()" := rfl

/-- **translator obligation**: `ninja_run` hands verbose / build file / targets on unconditionally and `-j` / `-k` exactly when given -/
theorem ninja_run_setters_reviewed : ninjaRunSetters =
    [([], "verbose(verbose)"), ([], "build_file(ninja_buildfile)"), ([], "targets(targets)"),
     (["if let Some(jobs) = jobs"], "jobs(jobs)"),
     (["if let Some(keep_going) = keep_going"], "keep_going(keep_going)")] := rfl

/-- **translator obligation**: only exit code 0 is success (`ninjaVerdict`); any other code and "no code" (killed) are errors -/
theorem ninja_run_verdict_reviewed : ninjaRunVerdict =
    ["Some(code) => match code { 0 => Ok(code), _ => Err(anyhow!(\"ninja exited with code {code}\")), }, None => Err(anyhow!(\"ninja probably killed by signal\")),"] := rfl

/-- **translator obligation**: the three calls `runBuild` (task branch, plain branch) and `runClean` model -/
theorem ninja_run_calls_reviewed : ninjaRunCalls =
    [["ninja_build_file.as_path()", "verbose > 0", "Some(ninja_targets)", "jobs", "None"],
     ["ninja_build_file.as_path()", "verbose > 0", "targets", "jobs", "keep_going"],
     ["ninja_build_file.as_path()", "verbose > 0", "clean_target", "None", "None"]] := rfl

/-! non-vacuity: the interpreter rejects what it does not know, and a program with a dropped flag is not the model -/
example : interp ⟨"f", true, none, none, none⟩ [([.unknown "if total > MAX"], .target)] = none := by decide +kernel
example : interp ⟨"f", false, some 3, some 0, some ["a", "b"]⟩
    [([], .lit "-f"), ([], .buildFile), ([.jobs], .lit "-j"), ([.jobs], .jobs), ([.targets, .eachTarget], .target)]
    ≠ some (ninjaArgv "f" false (some 3) (some 0) (some ["a", "b"])) := by decide +kernel

end Laze.C18n
