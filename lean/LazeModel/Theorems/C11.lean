import LazeModel.Model.Ctx
/-! C11 — apps are configured only for eligible builders: the allow/block decision. -/
namespace Laze.C11
open Laze

/-- depth of a listed name above `c` (`none`: unknown name or not an ancestor-or-self) -/
def listedDepth (t : Tree) (c : Name) (x : Name) : Option Nat :=
  match t.ctx? x with
  | none => none
  | some _ => t.depthOf x c

/-- the depth component of `is_ancestor_in_list` -/
def nearestDepth (t : Tree) (c : Name) (l : List Name) : Option Nat := (t.nearestIn c l).map (·.2)

/-- one iteration of the loop keeps the smaller depth: in a minimum over "the best so far, then the depth of `x`, then `r`"
    the first two may be replaced by what the iteration returns -/
theorem nearestStep_min? (t : Tree) (c : Name) (best : Option (Name × Nat)) (x : Name) (r : List Nat) :
    (((t.nearestStep c best x).map (·.2)).toList ++ r).min? =
      ((best.map (·.2)).toList ++ ((listedDepth t c x).toList ++ r)).min? := by
  unfold Tree.nearestStep listedDepth
  cases t.ctx? x with
  | none => rfl
  | some _ =>
    cases t.depthOf x c with
    | none => rfl
    | some d =>
      cases best with
      | none => rfl
      | some b =>
        show (((if b.2 ≤ d then some b else some (x, d)).map (·.2)).toList ++ r).min? = (b.2 :: d :: r).min?
        rw [List.min?_cons', List.foldl_cons]
        split
        · rename_i h; rw [Nat.min_eq_left h]; rfl
        · rename_i h; rw [Nat.min_eq_right (Nat.le_of_not_le h)]; rfl

/-- `is_ancestor_in_list` computes the minimum of the listed depths; everything else about it follows from this -/
theorem nearestDepth_eq_min? (t : Tree) (c : Name) (l : List Name) :
    nearestDepth t c l = (l.filterMap (listedDepth t c)).min? := by
  suffices h : ∀ best : Option (Name × Nat), (l.foldl (t.nearestStep c) best).map (·.2) =
      ((best.map (·.2)).toList ++ l.filterMap (listedDepth t c)).min? from h none
  induction l with
  | nil => intro best; cases best <;> rfl
  | cons x rest ih =>
    intro best
    rw [List.foldl_cons, ih, nearestStep_min?, List.filterMap_cons]
    cases listedDepth t c x <;> rfl

theorem nearestDepth_perm (t : Tree) (c : Name) {l l' : List Name} (h : l.Perm l') :
    nearestDepth t c l = nearestDepth t c l' :=
  Option.ext fun d => by simp only [nearestDepth_eq_min?, List.min?_eq_some_iff, (h.filterMap _).mem_iff]

/-- `is_ancestor_in_list` returns the *nearest* listed ancestor: its depth is attained by a listed
    name and is minimal among all listed names on the parent chain. -/
theorem nearest_is_min (t : Tree) (c : Name) (l : List Name) (d : Nat)
    (h : nearestDepth t c l = some d) :
    (∃ x ∈ l, listedDepth t c x = some d) ∧ ∀ y ∈ l, ∀ dy, listedDepth t c y = some dy → d ≤ dy := by
  rw [nearestDepth_eq_min?, List.min?_eq_some_iff] at h
  exact ⟨List.mem_filterMap.1 h.1, fun y hy dy hdy => h.2 dy (List.mem_filterMap.2 ⟨y, hy, hdy⟩)⟩

theorem nearest_none (t : Tree) (c : Name) (l : List Name) (h : nearestDepth t c l = none) :
    ∀ y ∈ l, listedDepth t c y = none := by
  rwa [nearestDepth_eq_min?, List.min?_eq_none_iff, List.filterMap_eq_nil_iff] at h

/-- the decision as a function of the two nearest depths only -/
def decide2 (allow block : Option (Option Nat)) : Bool :=
  match allow, block with
  | some a, some b =>
    (match a, b with
     | some ad, some bd => !(ad > bd)
     | some _, none => true
     | none, some _ => false
     | none, none => true)
  | some a, none => a.isSome
  | none, some b => b.isNone
  | none, none => true

theorem ok_allow (n : Name) (d : Nat) : (Verdict.allow n d).ok = true := by cases d <;> rfl
theorem ok_block (n : Name) (d : Nat) : (Verdict.block n d).ok = false := by cases d <;> rfl

/-- The decision table of C11: `is_allowed` depends only on the depths of the nearest listed
    ancestors: blocklisted nearer ⇒ not built; allowlisted nearer (or equally near) ⇒ built;
    only a blocklist and it matches ⇒ not built; only an allowlist and no match ⇒ not built. -/
theorem core_spec (a b : Option (Option (Name × Nat))) :
    (isAllowedCore a b).ok = decide2 (a.map (·.map (·.2))) (b.map (·.map (·.2))) := by
  -- for each list: absent / given without a listed ancestor / the nearest listed ancestor
  rcases a with _ | _ | ⟨an, ad⟩ <;> rcases b with _ | _ | ⟨bn, bd⟩
  · rfl
  · rfl
  · exact ok_block bn bd
  · rfl
  · rfl
  · exact ok_block bn bd
  · rfl
  · exact ok_allow an ad
  · -- both lists have a listed ancestor: the nearer one decides, the allowlist on a tie
    show (if ad > bd then Verdict.block bn bd else Verdict.allow an ad).ok = !decide (ad > bd)
    split
    · rename_i h; rw [ok_block, decide_eq_true h]; rfl
    · rename_i h; rw [ok_allow, decide_eq_false h]; rfl

theorem allow_block_spec (t : Tree) (c : Name) (block allow : Option (List Name)) :
    (t.isAllowed c block allow).ok =
      decide2 (allow.map (nearestDepth t c)) (block.map (nearestDepth t c)) := by
  unfold Tree.isAllowed
  rw [core_spec]
  cases allow <;> cases block <;> rfl

/-- C11: the decision does not depend on the order in which names are written in either list -/
theorem order_independent (t : Tree) (c : Name) {al al' bl bl' : List Name}
    (ha : al.Perm al') (hb : bl.Perm bl') :
    (t.isAllowed c (some bl) (some al)).ok = (t.isAllowed c (some bl') (some al')).ok := by
  simp only [allow_block_spec, Option.map, nearestDepth_perm t c ha, nearestDepth_perm t c hb]

theorem order_independent_allow_only (t : Tree) (c : Name) {al al' : List Name} (ha : al.Perm al') :
    (t.isAllowed c none (some al)).ok = (t.isAllowed c none (some al')).ok := by
  simp only [allow_block_spec, Option.map, nearestDepth_perm t c ha]

theorem order_independent_block_only (t : Tree) (c : Name) {bl bl' : List Name} (hb : bl.Perm bl') :
    (t.isAllowed c (some bl) none).ok = (t.isAllowed c (some bl') none).ok := by
  simp only [allow_block_spec, Option.map, nearestDepth_perm t c hb]

/-- an allowlist alone excludes every builder not under a listed context -/
theorem allow_only_excludes (t : Tree) (c : Name) (al : List Name)
    (h : ∀ x ∈ al, listedDepth t c x = none) : (t.isAllowed c none (some al)).ok = false := by
  rw [allow_block_spec]
  cases hn : nearestDepth t c al with
  | none => simp [decide2, hn]
  | some d =>
    obtain ⟨⟨x, hx, hd⟩, _⟩ := nearest_is_min t c al d hn
    rw [h x hx] at hd; cases hd

-- non-vacuity: the order-sensitive example of the unfixed code (allowlist [default, b] vs [b, default])
def exTree : Tree := [⟨"default", none⟩, ⟨"a", some "default"⟩, ⟨"b", some "a"⟩]
example : (exTree.isAllowed "b" (some ["a"]) (some ["default", "b"])).ok = true := by decide +kernel
example : (exTree.isAllowed "b" (some ["a"]) (some ["b", "default"])).ok = true := by decide +kernel
example : (exTree.isAllowed "b" (some ["a"]) (some ["default"])).ok = false := by decide +kernel

end Laze.C11
