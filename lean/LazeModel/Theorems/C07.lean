import LazeModel.Theorems.C06
/-! C07: object sharing. Two compilations of the same source share an object path iff rule text,
    `always`, and order-only dependencies agree (under the no-collision assumption on the hasher);
    they then emit one statement. Non-shareable rules get a path private to builder and app. -/
namespace Laze.C07
open Laze Laze.C06

/-! ### where objects go -/

/-- non-shareable rule: no hash in the name, builder and app in the path -/
theorem nonshareable_private (st : Settings) (builder app : Name) (rule : Rule) (nr : NinjaRule)
    (h : Option String) (out srcpath : String) (hs : rule.shareable = false) :
    objectPath st builder app rule nr h out srcpath =
      pathPush (pathPush (pathPush (pathPush st.buildDir "objects") builder) app) (pathWithExtension srcpath out) := by
  unfold objectPath objectDir objectExt
  rw [hs]
  rfl

/-- shareable rule: one directory for all builders and apps, the rule/build-deps hash in the name -/
theorem shareable_shared_dir {st : Settings} {builder app : Name} {rule : Rule} {nr : NinjaRule}
    {h : Option String} {out srcpath : String} (hs : rule.shareable = true) :
    objectPath st builder app rule nr h out srcpath =
      pathPush (pathPush st.buildDir "objects") (pathWithExtension srcpath (hashXor nr.hash h ++ "." ++ out)) := by
  unfold objectPath objectDir objectExt
  rw [hs]
  rfl

/-- hence independent of builder and app (and of everything in the laze rule but `shareable`) -/
theorem shareable_independent (st : Settings) (b1 a1 b2 a2 : Name) (rule1 rule2 : Rule) (nr : NinjaRule)
    (h : Option String) (out srcpath : String) (hs1 : rule1.shareable = true) (hs2 : rule2.shareable = true) :
    objectPath st b1 a1 rule1 nr h out srcpath = objectPath st b2 a2 rule2 nr h out srcpath := by
  rw [shareable_shared_dir hs1, shareable_shared_dir hs2]

/-! ### equal hash ⇒ one statement -/

theorem hashXor_none (a : String) : hashXor a none = a := rfl

/-- a rule hash is never an xor token (the tokens have different kinds) -/
theorem rule_hash_ne_xor (r : NinjaRule) (a b : String) : r.hash ≠ hashXor a (some b) := by
  unfold NinjaRule.hash hashXor hashTok
  simp only [String.append_assoc, ne_eq, String.append_right_inj]
  exact append_ne_of_head (c := 'r') (c' := 'x') (by decide +kernel) (by decide +kernel) (by decide) _ _

/-- the "no collision" assumptions on `DefaultHasher`, for the hash inputs that occur: rule hashes (`C06.HashInj`, which is all
    C06 needs), hashes of build-dep file lists, and their combination. The theorems take it as a hypothesis: about laze's 64-bit
    hasher it is an assumption (DESIGN §8); for the model's symbolic hashes it is proved (`hashOK`), which gives the `_model` forms. `xor` asks more than
    absence of collisions: the code XORs two 64-bit values, which loses information whatever the hasher; the model combines the two in
    a token instead. -/
structure HashOK : Prop where
  rule : HashInj
  paths : ∀ l l' : List String, hashPaths "deps" l = hashPaths "deps" l' → l = l'
  xor : ∀ (r r' : NinjaRule) (l l' : List String),
    hashXor r.hash (some (hashPaths "deps" l)) = hashXor r'.hash (some (hashPaths "deps" l')) →
      r.hash = r'.hash ∧ hashPaths "deps" l = hashPaths "deps" l'

theorem same_hash (ok : HashOK) {nr1 nr2 : NinjaRule} {c1 c2 : Option (List String)}
    (hx : hashXor nr1.hash (depsHashOf c1) = hashXor nr2.hash (depsHashOf c2)) :
    nr1.hash = nr2.hash ∧ c1.map pathSort = c2.map pathSort := by
  cases c1 with
  | none =>
    cases c2 with
    | none => exact ⟨hx, rfl⟩
    | some l2 => exact absurd hx (rule_hash_ne_xor nr1 _ _)
  | some l1 =>
    cases c2 with
    | none => exact absurd hx.symm (rule_hash_ne_xor nr2 _ _)
    | some l2 =>
      obtain ⟨h1, h2⟩ := ok.xor nr1 nr2 (pathSort l1) (pathSort l2) hx
      exact ⟨h1, congrArg some (ok.paths _ _ h2)⟩

theorem depsHashOf_congr {c1 c2 : Option (List String)} (h : c1.map pathSort = c2.map pathSort) :
    depsHashOf c1 = depsHashOf c2 := by
  cases c1 <;> cases c2 <;> simp_all [depsHashOf]

/-- two equal statements leave one entry -/
theorem same_statement_once (es : List String) (s : String) : addEntries es [s, s] = addEntry es s :=
  show addEntry (addEntry es s) s = addEntry es s from
    if_pos (List.contains_iff_mem.2 (mem_addEntry.2 (.inr rfl)))

/-! ### converse: identical rule and build deps ⇒ shared object -/

theorem hash_determined {r1 r2 : NinjaRule} (h : HashedEq r1 r2) : r1.hash = r2.hash := by
  obtain ⟨hn, hc, hd, hg, hr, hrc, hp, ha⟩ := h
  unfold NinjaRule.hash
  rw [hn, hc, hd, hg, hr, hrc, hp, ha]

/-- identical named rules and identical build deps: the same object path for every builder and app -/
theorem identical_statement_shares (st : Settings) (b1 a1 b2 a2 : Name) (rule1 rule2 : Rule)
    {nr1 nr2 : NinjaRule} {c1 c2 : Option (List String)} (out srcpath : String)
    (hs1 : rule1.shareable = true) (hs2 : rule2.shareable = true) (hnr : nr1 = nr2) (hc : c1 = c2) :
    objectPath st b1 a1 rule1 nr1 (depsHashOf c1) out srcpath =
      objectPath st b2 a2 rule2 nr2 (depsHashOf c2) out srcpath := by
  subst hnr; subst hc
  exact shareable_independent st b1 a1 b2 a2 rule1 rule2 nr1 _ out srcpath hs1 hs2

/-- the same from agreement on the hashed fields only (the `export` lists may differ) -/
theorem identical_fields_share (st : Settings) (b1 a1 b2 a2 : Name) (rule1 rule2 : Rule)
    {nr1 nr2 : NinjaRule} (c : Option (List String)) (out srcpath : String)
    (hs1 : rule1.shareable = true) (hs2 : rule2.shareable = true)
    (hn : nr1.name = nr2.name) (hc : nr1.command = nr2.command) (hd : nr1.description = nr2.description)
    (hg : nr1.deps = nr2.deps) (hr : nr1.rspfile = nr2.rspfile) (hrc : nr1.rspfileContent = nr2.rspfileContent)
    (hp : nr1.pool = nr2.pool) (ha : nr1.always = nr2.always) :
    objectPath st b1 a1 rule1 nr1 (depsHashOf c) out srcpath =
      objectPath st b2 a2 rule2 nr2 (depsHashOf c) out srcpath := by
  rw [shareable_shared_dir hs1, shareable_shared_dir hs2, hash_determined ⟨hn, hc, hd, hg, hr, hrc, hp, ha⟩]

/-! ### equal shared object paths ⇔ equal combined hashes ⇔ equal rule text and build deps -/

theorem objectExt_ne_empty (H out : String) : H ++ "." ++ out ≠ "" := fun h =>
  absurd (String.append_eq_empty_iff.1 (String.append_eq_empty_iff.1 h).1).2 (by decide)

/-- for a source path with an extension (which `compileStmts` demands), the shared object path
    determines the combined hash -/
theorem shared_object_path_iff (st : Settings) (b1 a1 b2 a2 : Name) (rule1 rule2 : Rule) (nr1 nr2 : NinjaRule)
    (h1 h2 : Option String) (out srcpath ext : String)
    (hs1 : rule1.shareable = true) (hs2 : rule2.shareable = true) (hext : pathExtension srcpath = some ext) :
    objectPath st b1 a1 rule1 nr1 h1 out srcpath = objectPath st b2 a2 rule2 nr2 h2 out srcpath ↔
      hashXor nr1.hash h1 = hashXor nr2.hash h2 := by
  rw [shareable_shared_dir hs1, shareable_shared_dir hs2]
  constructor
  · intro h
    obtain ⟨P, hP, hshape⟩ := pathWithExtension_shape srcpath (pathExtension_some_file hext)
    rw [hshape _ (objectExt_ne_empty _ _), hshape _ (objectExt_ne_empty _ _)] at h
    have h' := pathPush_inj _ _ _ (by rw [startsWith_slash_append _ _ hP, startsWith_slash_append _ _ hP]) h
    rwa [String.append_right_inj, String.append_left_inj, String.append_left_inj] at h'
  · intro h
    rw [h]

/-- **C07**: two compilations of the same source by shareable rules use the same object path iff the
    (named) ninja rules agree on every hashed field — name (which itself carries the hash of the
    unnamed rule), command, description, dependency-file setting, response file, pool, `always` —
    and the combined order-only dependencies are identical as the statements print them (sorted): the order in
    which the modules exporting them were resolved does not matter (laze's `fix:` for the finding
    `deps_hash_order_matters_old` below). -/
theorem same_object_iff (ok : HashOK) (st : Settings) (b1 a1 b2 a2 : Name) (rule1 rule2 : Rule)
    (nr1 nr2 : NinjaRule) (c1 c2 : Option (List String)) (out srcpath ext : String)
    (hs1 : rule1.shareable = true) (hs2 : rule2.shareable = true) (hext : pathExtension srcpath = some ext) :
    objectPath st b1 a1 rule1 nr1 (depsHashOf c1) out srcpath =
        objectPath st b2 a2 rule2 nr2 (depsHashOf c2) out srcpath ↔
      (nr1.name = nr2.name ∧ nr1.command = nr2.command ∧ nr1.description = nr2.description ∧
       nr1.deps = nr2.deps ∧ nr1.rspfile = nr2.rspfile ∧ nr1.rspfileContent = nr2.rspfileContent ∧
       nr1.pool = nr2.pool ∧ nr1.always = nr2.always) ∧ c1.map pathSort = c2.map pathSort := by
  rw [shared_object_path_iff st b1 a1 b2 a2 rule1 rule2 nr1 nr2 _ _ out srcpath ext hs1 hs2 hext]
  constructor
  · intro hx
    obtain ⟨hh, hc⟩ := same_hash ok hx
    exact ⟨ok.rule nr1 nr2 hh, hc⟩
  · rintro ⟨hf, hcs⟩
    rw [hash_determined hf, depsHashOf_congr hcs]

/-- and in that case the rule block, the compile statement and the extra statements coincide -/
theorem same_object_single_statement (ok : HashOK) (st : Settings) (b1 a1 b2 a2 : Name) (rule1 rule2 : Rule)
    (nr1 nr2 : NinjaRule) (c1 c2 : Option (List String)) (out srcpath ext : String)
    (localDeps : Option (List String)) (srcTag : Option String)
    (hs1 : rule1.shareable = true) (hs2 : rule2.shareable = true) (hext : pathExtension srcpath = some ext)
    (hobj : objectPath st b1 a1 rule1 nr1 (depsHashOf c1) out srcpath =
        objectPath st b2 a2 rule2 nr2 (depsHashOf c2) out srcpath) :
    nr1.render = nr2.render ∧
    compileOut nr1 c1 localDeps srcTag srcpath (objectPath st b1 a1 rule1 nr1 (depsHashOf c1) out srcpath) =
      compileOut nr2 c2 localDeps srcTag srcpath (objectPath st b2 a2 rule2 nr2 (depsHashOf c2) out srcpath) := by
  have hx := (shared_object_path_iff st b1 a1 b2 a2 rule1 rule2 nr1 nr2 _ _ out srcpath ext hs1 hs2 hext).1 hobj
  obtain ⟨hh, hcs⟩ := same_hash ok hx
  have hf := ok.rule nr1 nr2 hh
  refine ⟨render_determined hf, ?_⟩
  obtain ⟨hn, _, _, _, _, _, _, ha⟩ := hf
  -- the statement takes from the rule its name and `always`, from the build deps their sorted list
  unfold compileOut buildFromRule
  rw [hobj, hn, ha, hcs]

/-! ### the symbolic hashes satisfy `HashOK` -/

theorem hash_notin_digits (n : Nat) : '#' ∉ Nat.toDigits 10 n := by
  intro h
  have := Nat.isDigit_of_mem_toDigits (by decide) (by decide) h
  exact absurd this (by decide)

theorem toDigits_inj {n m : Nat} (h : Nat.toDigits 10 n = Nat.toDigits 10 m) : n = m := by
  have := congrArg (fun l => Nat.ofDigitChars 10 l 0) h
  simpa using this

theorem enc_toList (s : String) : (enc s).toList = Nat.toDigits 10 s.length ++ '#' :: s.toList := by
  unfold enc
  simp

/-! Every hashed field is written so that it can be read off the front of any text (`x ++ t = x' ++ t' ↔ x = x' ∧ t = t'`):
    a rule hash is taken apart by rewriting with these equivalences. -/

theorem enc_append_inj {s s' t t' : String} : enc s ++ t = enc s' ++ t' ↔ s = s' ∧ t = t' := by
  refine ⟨fun h => ?_, fun ⟨hs, ht⟩ => hs ▸ ht ▸ rfl⟩
  have h' := congrArg String.toList h
  rw [String.toList_append, String.toList_append, enc_toList, enc_toList, List.append_assoc, List.append_assoc,
    List.cons_append, List.cons_append] at h'
  -- the digits of the length end at the first `#`; equal lengths then split the rest
  obtain ⟨hd, hr⟩ := split_at_sep (hash_notin_digits _) (hash_notin_digits _) h'
  have hl : s.toList.length = s'.toList.length := by
    rw [String.length_toList, String.length_toList]; exact toDigits_inj hd
  obtain ⟨h1, h2⟩ := List.append_inj hr hl
  exact ⟨String.toList_inj.1 h1, String.toList_inj.1 h2⟩

theorem optS_append_inj {o o' : Option String} {t t' : String} : optS o ++ t = optS o' ++ t' ↔ o = o' ∧ t = t' := by
  refine ⟨fun h => ?_, fun ⟨ho, ht⟩ => ho ▸ ht ▸ rfl⟩
  cases o <;> cases o' <;> unfold optS at h
  · exact ⟨rfl, (String.append_right_inj _).1 h⟩
  · rw [String.append_assoc] at h
    exact absurd h (append_ne_of_head (c := 'N') (c' := 'S') (by decide +kernel) (by decide +kernel) (by decide) _ _)
  · rw [String.append_assoc] at h
    exact absurd h (append_ne_of_head (c := 'S') (c' := 'N') (by decide +kernel) (by decide +kernel) (by decide) _ _)
  · rw [String.append_assoc, String.append_assoc, String.append_right_inj, enc_append_inj] at h
    exact ⟨congrArg some h.1, h.2⟩

/-- the `always` flag has no terminator of its own: it is read together with the one that closes the token -/
theorem always_append_inj {a a' : Bool} {t t' : String} :
    (if a then "|always" else "") ++ ("\x02" ++ t) = (if a' then "|always" else "") ++ ("\x02" ++ t') ↔
      a = a' ∧ t = t' := by
  refine ⟨fun h => ?_, fun ⟨ha, ht⟩ => ha ▸ ht ▸ rfl⟩
  cases a <;> cases a'
  · exact ⟨rfl, (String.append_right_inj _).1 ((String.append_right_inj _).1 h)⟩
  · rw [← String.append_assoc, ← String.append_assoc] at h
    exact absurd h (append_ne_of_head (c := '\x02') (c' := '|') (by decide +kernel) (by decide +kernel) (by decide) _ _)
  · rw [← String.append_assoc, ← String.append_assoc] at h
    exact absurd h (append_ne_of_head (c := '|') (c' := '\x02') (by decide +kernel) (by decide +kernel) (by decide) _ _)
  · exact ⟨rfl, (String.append_right_inj _).1 ((String.append_right_inj _).1 h)⟩

/-- a rule hash can be read off the front of any text, and determines every hashed field -/
theorem rule_hash_append_inj {r1 r2 : NinjaRule} {T T' : String} :
    r1.hash ++ T = r2.hash ++ T' ↔ HashedEq r1 r2 ∧ T = T' := by
  unfold NinjaRule.hash hashTok HashedEq
  simp only [String.append_assoc, String.append_right_inj, enc_append_inj, optS_append_inj, always_append_inj]
  -- the hash lists `pool` before the response file
  exact ⟨fun ⟨hn, hc, hd, hg, hp, hr, hrc, ha, hT⟩ => ⟨⟨hn, hc, hd, hg, hr, hrc, hp, ha⟩, hT⟩,
    fun ⟨⟨hn, hc, hd, hg, hr, hrc, hp, ha⟩, hT⟩ => ⟨hn, hc, hd, hg, hp, hr, hrc, ha, hT⟩⟩

/-- **`HashInj` holds for the symbolic rule hash** -/
theorem hashInj : HashInj :=
  fun _ _ h => (rule_hash_append_inj.1 (congrArg (· ++ "") h)).1

theorem enc_append_ne_empty (s t : String) : enc s ++ t ≠ "" := fun h => by
  have := congrArg String.toList h
  rw [String.toList_append, enc_toList, List.append_assoc] at this
  exact List.cons_ne_nil _ _ (List.append_eq_nil_iff.1 this).2

theorem joinEnc_inj {l l' : List String}
    (h : String.join (l.map (fun p => enc p ++ ";")) = String.join (l'.map (fun p => enc p ++ ";"))) : l = l' := by
  induction l generalizing l' with
  | nil =>
    cases l' with
    | nil => rfl
    | cons p l' =>
      rw [List.map_cons, String.join_cons, String.append_assoc] at h
      exact absurd h.symm (enc_append_ne_empty _ _)
  | cons p l ih =>
    cases l' with
    | nil =>
      rw [List.map_cons, String.join_cons, String.append_assoc] at h
      exact absurd h (enc_append_ne_empty _ _)
    | cons p' l' =>
      simp only [List.map_cons, String.join_cons, String.append_assoc, enc_append_inj, String.append_right_inj] at h
      rw [h.1, ih h.2]

theorem hashPaths_inj {kind : String} {l l' : List String} (h : hashPaths kind l = hashPaths kind l') : l = l' := by
  unfold hashPaths hashTok at h
  rw [String.append_left_inj, String.append_right_inj] at h
  exact joinEnc_inj h

theorem hashXor_rule_inj {r r' : NinjaRule} {b b' : String}
    (h : hashXor r.hash (some b) = hashXor r'.hash (some b')) : r.hash = r'.hash ∧ b = b' := by
  unfold hashXor hashTok at h
  simp only [String.append_assoc, String.append_right_inj, rule_hash_append_inj, String.append_left_inj] at h
  exact ⟨hash_determined h.1, h.2⟩

/-- **the no-collision assumptions hold for the symbolic hashes of the model** -/
theorem hashOK : HashOK where
  rule := hashInj
  paths := fun _ _ h => hashPaths_inj h
  xor := fun _ _ _ _ h => hashXor_rule_inj h


/-! ### non-shareable objects are private to builder and app -/

/-- a simple name: non-empty, without `/` -/
def SimpleName (n : String) : Prop := n ≠ "" ∧ '/' ∉ n.toList

theorem SimpleName.rel {n : String} (h : SimpleName n) : n.startsWith "/" = false :=
  Bool.eq_false_iff.2 fun hs => h.2 (List.mem_of_head? (startsWith_slash_iff.1 hs))

theorem sepOf_append_simple (x n : String) (h : SimpleName n) : sepOf (x ++ n) = "/" := by
  have hne : n.toList ≠ [] := fun h0 => h.1 (String.toList_inj.1 h0)
  have h1 : ¬ (x ++ n == "") = true := fun he => h.1 (String.append_eq_empty_iff.1 (eq_of_beq he)).2
  have h2 : ¬ (x ++ n).endsWith "/" = true := fun he => by
    rw [endsWith_slash_iff, String.toList_append, List.getLast?_append, List.getLast?_eq_some_getLast hne,
      Option.some_or] at he
    exact h.2 (Option.some.inj he ▸ List.getLast_mem hne)
  rw [sepOf, if_neg h1, if_neg h2]

theorem split_at_slash {n n' r r' : String} (h1 : '/' ∉ n.toList) (h2 : '/' ∉ n'.toList)
    (h : n ++ ("/" ++ r) = n' ++ ("/" ++ r')) : n = n' ∧ r = r' := by
  have h' := congrArg String.toList h
  have hl : "/".toList = ['/'] := by decide +kernel
  simp only [String.toList_append, hl, List.singleton_append] at h'
  obtain ⟨ha, hb⟩ := split_at_sep h1 h2 h'
  exact ⟨String.toList_inj.1 ha, String.toList_inj.1 hb⟩

theorem nonshareable_path (st : Settings) (builder app : Name) (rule : Rule) (nr : NinjaRule) (h : Option String)
    (out srcpath : String) (hs : rule.shareable = false) (hb : SimpleName builder) (ha : SimpleName app)
    (hrel : (pathWithExtension srcpath out).startsWith "/" = false) :
    objectPath st builder app rule nr h out srcpath =
      pathPush st.buildDir "objects" ++ sepOf (pathPush st.buildDir "objects") ++ builder ++ "/" ++ app ++ "/" ++
        pathWithExtension srcpath out := by
  rw [nonshareable_private _ _ _ _ _ _ _ _ hs]
  rw [pathPush_sepOf _ _ hrel, pathPush_sepOf _ app ha.rel, pathPush_sepOf _ builder hb.rel]
  rw [sepOf_append_simple _ app ha, sepOf_append_simple _ builder hb]

/-- **privacy**: for simple builder and app names and relative sources, the object path of a
    non-shareable rule determines builder, app and the object's relative name -/
theorem nonshareable_private_inj (st : Settings) (b1 a1 b2 a2 : Name) (rule1 rule2 : Rule) (nr1 nr2 : NinjaRule)
    (h1 h2 : Option String) (out1 out2 src1 src2 : String)
    (hs1 : rule1.shareable = false) (hs2 : rule2.shareable = false)
    (hb1 : SimpleName b1) (ha1 : SimpleName a1) (hb2 : SimpleName b2) (ha2 : SimpleName a2)
    (hrel1 : (pathWithExtension src1 out1).startsWith "/" = false)
    (hrel2 : (pathWithExtension src2 out2).startsWith "/" = false)
    (heq : objectPath st b1 a1 rule1 nr1 h1 out1 src1 = objectPath st b2 a2 rule2 nr2 h2 out2 src2) :
    b1 = b2 ∧ a1 = a2 ∧ pathWithExtension src1 out1 = pathWithExtension src2 out2 := by
  rw [nonshareable_path st b1 a1 rule1 nr1 h1 out1 src1 hs1 hb1 ha1 hrel1,
    nonshareable_path st b2 a2 rule2 nr2 h2 out2 src2 hs2 hb2 ha2 hrel2] at heq
  simp only [String.append_assoc, String.append_right_inj] at heq
  obtain ⟨hb, heq⟩ := split_at_slash hb1.2 hb2.2 heq
  obtain ⟨ha, heq⟩ := split_at_slash ha1.2 ha2.2 heq
  exact ⟨hb, ha, heq⟩

example : SimpleName "native" := ⟨by decide, by decide⟩

/-! ### unconditional forms (for the model's symbolic hashes) -/

/-- rule blocks are functional in their hashed name (given the base name) -/
theorem rule_names_functional_model {r1 r2 : NinjaRule}
    (hnamed : r1.named.name = r2.named.name) (hbase : r1.name = r2.name) :
    r1.named.render = r2.named.render :=
  rule_names_functional hashInj hnamed hbase

theorem same_object_iff_model (st : Settings) (b1 a1 b2 a2 : Name) (rule1 rule2 : Rule)
    (nr1 nr2 : NinjaRule) (c1 c2 : Option (List String)) (out srcpath ext : String)
    (hs1 : rule1.shareable = true) (hs2 : rule2.shareable = true) (hext : pathExtension srcpath = some ext) :
    objectPath st b1 a1 rule1 nr1 (depsHashOf c1) out srcpath =
        objectPath st b2 a2 rule2 nr2 (depsHashOf c2) out srcpath ↔
      (nr1.name = nr2.name ∧ nr1.command = nr2.command ∧ nr1.description = nr2.description ∧
       nr1.deps = nr2.deps ∧ nr1.rspfile = nr2.rspfile ∧ nr1.rspfileContent = nr2.rspfileContent ∧
       nr1.pool = nr2.pool ∧ nr1.always = nr2.always) ∧ c1.map pathSort = c2.map pathSort :=
  same_object_iff hashOK st b1 a1 b2 a2 rule1 rule2 nr1 nr2 c1 c2 out srcpath ext hs1 hs2 hext

/-! #### concrete data -/
section Examples
private def cc : Rule := { name := "CC", cmd := "gcc -c ${in} -o ${out}", out := some "o" }
private def ccN : Rule := { cc with shareable := false }
private def nrA : NinjaRule := mkNinjaRule cc "" "gcc -O2 -c ${in} -o ${out}" none
private def nrB : NinjaRule := mkNinjaRule cc "" "gcc -O0 -c ${in} -o ${out}" none

-- the hypotheses of `same_object_iff` are satisfiable, both sides true:
#guard pathExtension "src/hello.c" == some "c"
#guard objectPath {} "b1" "app1" cc nrA (depsHashOf (some ["x.h"])) "o" "src/hello.c"
    == objectPath {} "b2" "app2" cc nrA (depsHashOf (some ["x.h"])) "o" "src/hello.c"
-- … and both sides false: another command, or other build deps
#guard objectPath {} "b1" "app1" cc nrA (depsHashOf none) "o" "src/hello.c"
    != objectPath {} "b1" "app1" cc nrB (depsHashOf none) "o" "src/hello.c"
#guard objectPath {} "b1" "app1" cc nrA (depsHashOf (some ["x.h"])) "o" "src/hello.c"
    != objectPath {} "b1" "app1" cc nrA (depsHashOf (some ["y.h"])) "o" "src/hello.c"
-- `hext` is needed: without a proper file name `with_extension` changes nothing and every hash
-- gives the same path (`compileStmts` rejects such sources)
#guard objectPath {} "b1" "app1" cc nrA (depsHashOf none) "o" "src/.." == objectPath {} "b1" "app1" cc nrB (depsHashOf none) "o" "src/.."
-- non-shareable: private to builder and app for relative sources …
#guard objectPath {} "b1" "app1" ccN nrA none "o" "src/hello.c" == "build/objects/b1/app1/src/hello.o"
-- … but NOT for an absolute source path (COUNTEREXAMPLE to unconditional privacy): two builders with
-- different commands produce the same output path
#guard objectPath {} "b1" "app1" ccN nrA none "o" "/abs/hello.c" == objectPath {} "b2" "app2" ccN nrB none "o" "/abs/hello.c"
#guard (buildFromRule nrA (some ["/abs/hello.c"]) ["/abs/hello.o"] none).render
    != (buildFromRule nrB (some ["/abs/hello.c"]) ["/abs/hello.o"] none).render
-- … nor when names contain `/`
#guard objectPath {} "a/b" "c" ccN nrA none "o" "src/hello.c" == objectPath {} "a" "b/c" ccN nrA none "o" "src/hello.c"
-- … e.g. app `x` compiling `y/z.c` and app `x/y` compiling `z.c`
#guard objectPath {} "b" "x" ccN nrA none "o" "y/z.c" == objectPath {} "b" "x/y" ccN nrA none "o" "z.c"
-- hypotheses of `nonshareable_private_inj` on concrete data
#guard (pathWithExtension "src/hello.c" "o").startsWith "/" == false

/-- FINDING (repaired in /repo by a `fix:` commit; the model follows the repaired code): the hash used to be taken over
    the build-dep files in the order the exporting modules were resolved, while the statement prints them sorted. Two apps
    selecting two global build deps in opposite orders then compiled the same source with identical statements into two
    object paths. `hashPaths` distinguishes the two orders … -/
theorem deps_hash_order_matters_old : hashPaths "deps" ["gg1.h", "gg2.h"] ≠ hashPaths "deps" ["gg2.h", "gg1.h"] := by
  intro h
  have := hashOK.paths _ _ h
  simp at this

/-- … while the statements are the same (tested by evaluation), and `depsHashOf` (sorted) no longer distinguishes them -/
theorem deps_hash_order_irrelevant (l1 l2 : List String) (h : pathSort l1 = pathSort l2) :
    depsHashOf (some l1) = depsHashOf (some l2) :=
  depsHashOf_congr (congrArg some h)
#guard pathSort ["gg1.h", "gg2.h"] == pathSort ["gg2.h", "gg1.h"]
#guard depsHashOf (some ["gg1.h", "gg2.h"]) == depsHashOf (some ["gg2.h", "gg1.h"])
end Examples

end Laze.C07
