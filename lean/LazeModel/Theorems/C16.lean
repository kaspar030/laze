import LazeModel.Lemmas.List
import LazeModel.Model.MainRun
/-! C16 — tasks: when a task is runnable for a build (`taskAvail`), which builds `laze build <task>`
    runs it for, the refusals, "build first", the keep-going rule and the exit status
    (`runBuild`, `runTasks`, `taskSpawns` of `LazeModel/Model/MainRun.lean`). -/
namespace Laze.C16
open Laze

/-! ## `taskAvail`: runnable ⇔ all `required_vars` set ∧ all `required_modules` selected -/

def VarsSet (flat : Flat) (t : Task) : Prop := ∀ v ∈ t.requiredVars.getD [], flat.any (·.1 == v) = true
def ModulesSelected (r : Resolved) (t : Task) : Prop := ∀ m ∈ t.requiredModules.getD [], r.has m = true

theorem taskAvail_cases (ev : EvalExpr) (flat : Flat) (r : Resolved) (t : Task) :
    (¬ VarsSet flat t ∧ ∃ v pre post, taskAvail ev flat r t = .ok (.missingVar v) ∧ flat.any (·.1 == v) = false ∧
        t.requiredVars.getD [] = pre ++ v :: post ∧ ∀ w ∈ pre, flat.any (·.1 == w) = true) ∨
    (VarsSet flat t ∧ ¬ ModulesSelected r t ∧
      ∃ m pre post, taskAvail ev flat r t = .ok (.missingModule m) ∧ r.has m = false ∧
        t.requiredModules.getD [] = pre ++ m :: post ∧ ∀ w ∈ pre, r.has w = true) ∨
    (VarsSet flat t ∧ ModulesSelected r t ∧ taskAvail ev flat r t = (taskWithEnvEval ev flat t).map TaskAvail.ok) := by
  unfold taskAvail
  rcases find_not_cases (fun v => flat.any (·.1 == v)) (t.requiredVars.getD []) with ⟨hv, hvs⟩ | ⟨hn, v, pre, post, hv, h⟩
  · rcases find_not_cases r.has (t.requiredModules.getD []) with ⟨hm, hms⟩ | ⟨hn, m, pre, post, hm, h⟩
    · exact .inr (.inr ⟨hvs, hms, by rw [hv, hm]⟩)
    · exact .inr (.inl ⟨hvs, hn, m, pre, post, by rw [hv, hm], h⟩)
  · exact .inl ⟨hn, v, pre, post, by rw [hv], h⟩

theorem runnable_of_requirements' {ev : EvalExpr} {flat : Flat} {r : Resolved} {t : Task}
    (hv : ∀ v ∈ t.requiredVars.getD [], flat.any (·.1 == v) = true)
    (hm : ∀ m ∈ t.requiredModules.getD [], r.has m = true) :
    (∃ t', taskAvail ev flat r t = .ok (.ok t')) ∨ (∃ e, taskAvail ev flat r t = .error e) := by
  rcases taskAvail_cases ev flat r t with ⟨hn, _⟩ | ⟨_, hn, _⟩ | ⟨_, _, e⟩
  · exact absurd hv hn
  · exact absurd hm hn
  · rw [e]
    cases taskWithEnvEval ev flat t with
    | error e => exact .inr ⟨e, rfl⟩
    | ok x => exact .inl ⟨x, rfl⟩

/-- a task is runnable for a build exactly when all its `required_vars` are set in the
    build's environment, all its `required_modules` are selected (and its strings expand) -/
theorem runnable_iff (ev : EvalExpr) (flat : Flat) (r : Resolved) (t : Task) :
    (∃ t', taskAvail ev flat r t = .ok (.ok t')) ↔
      (∀ v ∈ t.requiredVars.getD [], flat.any (·.1 == v) = true) ∧
      (∀ m ∈ t.requiredModules.getD [], r.has m = true) ∧
      ∃ t', taskWithEnvEval ev flat t = .ok t' := by
  rcases taskAvail_cases ev flat r t with ⟨hn, _, _, _, e, _⟩ | ⟨_, hn, _, _, _, e, _⟩ | ⟨hv, hm, e⟩ <;> rw [e]
  · exact ⟨(by rintro ⟨_, ⟨⟩⟩), fun h => absurd h.1 hn⟩
  · exact ⟨(by rintro ⟨_, ⟨⟩⟩), fun h => absurd h.2.1 hn⟩
  · cases taskWithEnvEval ev flat t with
    | error e => exact ⟨(by rintro ⟨_, ⟨⟩⟩), fun h => by obtain ⟨_, _, _, ⟨⟩⟩ := h⟩
    | ok x => exact ⟨fun _ => ⟨hv, hm, x, rfl⟩, fun _ => ⟨x, rfl⟩⟩

/-- the three answers are exhaustive and exclusive descriptions of the requirement state -/
theorem not_runnable_iff (ev : EvalExpr) (flat : Flat) (r : Resolved) (t : Task) :
    ((∃ v, taskAvail ev flat r t = .ok (.missingVar v)) ↔
        ¬ (∀ v ∈ t.requiredVars.getD [], flat.any (·.1 == v) = true)) ∧
    ((∃ m, taskAvail ev flat r t = .ok (.missingModule m)) ↔
        (∀ v ∈ t.requiredVars.getD [], flat.any (·.1 == v) = true) ∧
        ¬ (∀ m ∈ t.requiredModules.getD [], r.has m = true)) := by
  rcases taskAvail_cases ev flat r t with ⟨hn, v, _, _, e, _⟩ | ⟨hvs, hn, m, _, _, e, _⟩ | ⟨hvs, hms, e⟩ <;> rw [e]
  · exact ⟨⟨fun _ => hn, fun _ => ⟨v, rfl⟩⟩, (by rintro ⟨_, ⟨⟩⟩), fun h => absurd h.1 hn⟩
  · exact ⟨⟨(by rintro ⟨_, ⟨⟩⟩), fun h => absurd hvs h⟩, fun _ => ⟨hvs, hn⟩, fun _ => ⟨m, rfl⟩⟩
  · cases taskWithEnvEval ev flat t <;>
      exact ⟨⟨(by rintro ⟨_, ⟨⟩⟩), fun h => absurd hvs h⟩, (by rintro ⟨_, ⟨⟩⟩), fun h => absurd hms h.2⟩

example : taskAvail (fun b => .ok b) [("PORT", "1")] ⟨[], []⟩ { cmd := [], requiredVars := some ["PORT"] } =
    .ok (.ok { cmd := [], requiredVars := some ["PORT"] }) := by
  rfl

/-! ## the pieces of `runBuild … (some (t, args))` -/

/-- the selected builds that define the task -/
def cands (a : Args) (builds : List BuildInfo) (t : String) : List BuildInfo :=
  builds.filter (fun i => selected a i && (taskOf i t).isSome)

/-- the selected builds for which the task is runnable, with the task -/
def runnable (a : Args) (builds : List BuildInfo) (t : String) : List (BuildInfo × Task) :=
  (cands a builds t).filterMap (fun i => match taskOf i t with | some (.ok t) => some (i, t) | _ => none)

/-- the `out` of the runnable matches with `build: true`, in order -/
def buildTargets (a : Args) (builds : List BuildInfo) (t : String) : List String :=
  ((runnable a builds t).filter (fun (_, t) => t.build)).map (fun (i, _) => i.out)

/-- the (at most one) ninja invocation before the tasks -/
def pre (st : Settings) (a : Args) (fl : Flags) (builds : List BuildInfo) (t : String) : List Spawn :=
  if !(buildTargets a builds t).isEmpty && !fl.generateOnly
  then [.ninja (ninjaArgv (ninjaFile st a.mode) (fl.verbose > 0) fl.jobs none (some (buildTargets a builds t)))]
  else []

/-- `laze` refuses: several selected builds define the task and `--multiple-tasks` is not given -/
def refused (a : Args) (fl : Flags) (builds : List BuildInfo) (t : String) : Prop :=
  (cands a builds t).length > 1 ∧ fl.multiple = false

theorem runBuild_task (st : Settings) (a : Args) (fl : Flags) (builds : List BuildInfo) (t : String)
    (args : List String) (ninjaRc : Nat) (cmdFails : String → Bool) :
    runBuild st a fl builds (some (t, args)) ninjaRc cmdFails =
      if (runnable a builds t).isEmpty then ([], 1)
      else if (cands a builds t).length > 1 && !fl.multiple then ([], 1)
      else if !(pre st a fl builds t).isEmpty && ninjaRc != 0 then (pre st a fl builds t, 1)
      else (pre st a fl builds t ++
              (runTasks st.projectRoot args cmdFails fl.keepGoing ((runnable a builds t).map (·.2)) 0).1,
            if (runTasks st.projectRoot args cmdFails fl.keepGoing ((runnable a builds t).map (·.2)) 0).2 > 0
            then 1 else 0) := by
  rfl

theorem mem_cands {a : Args} {builds : List BuildInfo} {t : String} {i : BuildInfo} :
    i ∈ cands a builds t ↔ i ∈ builds ∧ selected a i = true ∧ (taskOf i t).isSome = true := by
  simp [cands, List.mem_filter]

theorem mem_runnable {a : Args} {builds : List BuildInfo} {t : String} {i : BuildInfo} {tk : Task} :
    (i, tk) ∈ runnable a builds t ↔ i ∈ builds ∧ selected a i = true ∧ taskOf i t = some (.ok tk) := by
  unfold runnable
  rw [List.mem_filterMap]
  constructor
  · rintro ⟨j, hj, hm⟩
    obtain ⟨hb, hs, _⟩ := mem_cands.mp hj
    split at hm
    · rename_i t' ht
      cases hm
      exact ⟨hb, hs, ht⟩
    · cases hm
  · rintro ⟨hb, hs, ht⟩
    refine ⟨i, mem_cands.mpr ⟨hb, hs, by simp [ht]⟩, ?_⟩
    rw [ht]

theorem runnable_length_le (a : Args) (builds : List BuildInfo) (t : String) :
    (runnable a builds t).length ≤ (cands a builds t).length :=
  List.length_filterMap_le _ _

theorem mem_buildTargets {a : Args} {builds : List BuildInfo} {t : String} {p : String} :
    p ∈ buildTargets a builds t ↔
      ∃ i ∈ builds, selected a i = true ∧ ∃ tk, taskOf i t = some (.ok tk) ∧ tk.build = true ∧ p = i.out := by
  unfold buildTargets
  rw [List.mem_map]
  constructor
  · rintro ⟨⟨i, tk⟩, hm, rfl⟩
    rw [List.mem_filter] at hm
    obtain ⟨hb, hs, ht⟩ := mem_runnable.mp hm.1
    exact ⟨i, hb, hs, tk, ht, hm.2, rfl⟩
  · rintro ⟨i, hb, hs, tk, ht, hbuild, rfl⟩
    exact ⟨(i, tk), List.mem_filter.mpr ⟨mem_runnable.mpr ⟨hb, hs, ht⟩, hbuild⟩, rfl⟩

theorem buildTargets_ne_nil {a : Args} {builds : List BuildInfo} {t : String} :
    buildTargets a builds t ≠ [] ↔ ∃ p ∈ runnable a builds t, p.2.build = true := by
  constructor
  · intro h
    obtain ⟨x, hx⟩ := List.exists_mem_of_ne_nil _ h
    obtain ⟨p, hp, _⟩ := List.mem_map.mp hx
    exact ⟨p, (List.mem_filter.mp hp).1, (List.mem_filter.mp hp).2⟩
  · rintro ⟨p, hp, hpb⟩
    exact List.ne_nil_of_mem (List.mem_map.mpr ⟨p, List.mem_filter.mpr ⟨hp, hpb⟩, rfl⟩)

theorem pre_eq (st : Settings) (a : Args) (fl : Flags) (builds : List BuildInfo) (t : String) :
    pre st a fl builds t =
      if (∃ p ∈ runnable a builds t, p.2.build = true) ∧ fl.generateOnly = false
      then [.ninja (ninjaArgv (ninjaFile st a.mode) (fl.verbose > 0) fl.jobs none (some (buildTargets a builds t)))]
      else [] := by
  unfold pre
  refine ite_cond_congr (propext ?_)
  rw [Bool.and_eq_true, Bool.not_eq_true', Bool.not_eq_true', List.isEmpty_eq_false_iff, buildTargets_ne_nil]

theorem pre_mem {st : Settings} {a : Args} {fl : Flags} {builds : List BuildInfo} {t : String} {s : Spawn}
    (h : s ∈ pre st a fl builds t) :
    s = .ninja (ninjaArgv (ninjaFile st a.mode) (fl.verbose > 0) fl.jobs none (some (buildTargets a builds t))) := by
  rw [pre_eq] at h
  split at h
  · exact List.mem_singleton.mp h
  · cases h

/-- the four ways `laze build <task>` ends: no runnable match; refused; ninja failed; the tasks were run (after a ninja call that
    succeeded, if there was one). Every theorem below about `runBuild … (some _)` starts from this. -/
theorem runBuild_task_cases (st : Settings) (a : Args) (fl : Flags) (builds : List BuildInfo) (t : String)
    (args : List String) (ninjaRc : Nat) (cmdFails : String → Bool) :
    (runnable a builds t = [] ∧ runBuild st a fl builds (some (t, args)) ninjaRc cmdFails = ([], 1)) ∨
    (runnable a builds t ≠ [] ∧ refused a fl builds t ∧
      runBuild st a fl builds (some (t, args)) ninjaRc cmdFails = ([], 1)) ∨
    (runnable a builds t ≠ [] ∧ ¬ refused a fl builds t ∧ pre st a fl builds t ≠ [] ∧ ninjaRc ≠ 0 ∧
      runBuild st a fl builds (some (t, args)) ninjaRc cmdFails = (pre st a fl builds t, 1)) ∨
    (runnable a builds t ≠ [] ∧ ¬ refused a fl builds t ∧ (pre st a fl builds t ≠ [] → ninjaRc = 0) ∧
      runBuild st a fl builds (some (t, args)) ninjaRc cmdFails =
        (pre st a fl builds t ++
            (runTasks st.projectRoot args cmdFails fl.keepGoing ((runnable a builds t).map (·.2)) 0).1,
          if (runTasks st.projectRoot args cmdFails fl.keepGoing ((runnable a builds t).map (·.2)) 0).2 > 0
          then 1 else 0)) := by
  -- the tests of `runBuild` as propositions
  have hB : (decide ((cands a builds t).length > 1) && !fl.multiple) = true ↔ refused a fl builds t := by
    rw [Bool.and_eq_true, decide_eq_true_eq, Bool.not_eq_true']; rfl
  have pB : (!(pre st a fl builds t).isEmpty && ninjaRc != 0) = true ↔ pre st a fl builds t ≠ [] ∧ ninjaRc ≠ 0 := by
    rw [Bool.and_eq_true, Bool.not_eq_true', List.isEmpty_eq_false_iff, bne_iff_ne]
  rw [runBuild_task]
  by_cases hr : runnable a builds t = []
  · exact .inl ⟨hr, if_pos (List.isEmpty_iff.mpr hr)⟩
  rw [if_neg (mt List.isEmpty_iff.mp hr)]
  by_cases hf : refused a fl builds t
  · exact .inr (.inl ⟨hr, hf, if_pos (hB.mpr hf)⟩)
  rw [if_neg (mt hB.mp hf)]
  by_cases hp : pre st a fl builds t ≠ [] ∧ ninjaRc ≠ 0
  · exact .inr (.inr (.inl ⟨hr, hf, hp.1, hp.2, if_pos (pB.mpr hp)⟩))
  · exact .inr (.inr (.inr ⟨hr, hf, fun h => Decidable.not_not.mp (not_and.mp hp h), if_neg (mt pB.mp hp)⟩))

/-! ## `taskSpawns` and `runTasks` -/

/-- `$$` → `$` on strings -/
def unesc (c : String) : String := String.ofList (unescapeDollar c.toList)

/-- the shell process of one command of a task -/
def shOf (root : String) (t : Task) (args : List String) (c : String) : Spawn :=
  .sh (match t.workdir with | some w => pathPush root w | none => root)
    ((t.export.getD []).filterMap (fun e => e.content.map (fun v => (e.var, v))))
    (unesc c) args

/-- a spawned process that failed: a shell command for which `cmdFails` holds -/
def spawnFails (cmdFails : String → Bool) : Spawn → Bool
  | .sh _ _ cmd _ => cmdFails cmd
  | .ninja _ => false

/-- a task fails iff one of its (unescaped) commands fails -/
def taskFails (cmdFails : String → Bool) (t : Task) : Bool := t.cmd.any (fun c => cmdFails (unesc c))

theorem taskSpawns_cons (root : String) (t : Task) (args : List String) (cf : String → Bool) (c : String)
    (rest : List String) :
    taskSpawns root t args cf (c :: rest) =
      if cf (unesc c) then ([shOf root t args c], false)
      else (shOf root t args c :: (taskSpawns root t args cf rest).1, (taskSpawns root t args cf rest).2) := by
  rfl

/-- the commands of a task are run in order up to and including the first
    failing one; the task succeeds iff no command fails -/
theorem taskSpawns_spec (root : String) (t : Task) (args : List String) (cf : String → Bool) (cmds : List String) :
    (taskSpawns root t args cf cmds).1 =
        (cmds.take (cmds.findIdx (fun c => cf (unesc c)) + 1)).map (shOf root t args) ∧
    (taskSpawns root t args cf cmds).2 = !cmds.any (fun c => cf (unesc c)) ∧
    (taskSpawns root t args cf cmds).1.any (spawnFails cf) = cmds.any (fun c => cf (unesc c)) := by
  induction cmds with
  | nil => simp [taskSpawns]
  | cons c rest ih =>
    rw [taskSpawns_cons]
    by_cases h : cf (unesc c) = true
    · simp [h, List.findIdx_cons, shOf, spawnFails]
    · simp only [Bool.not_eq_true] at h
      exact ⟨by simp [h, List.findIdx_cons, ih.1], by simp [h, ih.2.1], by simp [h, shOf, spawnFails, ih.2.2]⟩

theorem taskSpawns_mem {root : String} {t : Task} {args : List String} {cf : String → Bool} {cmds : List String}
    {s : Spawn} (h : s ∈ (taskSpawns root t args cf cmds).1) : ∃ c ∈ cmds, s = shOf root t args c := by
  rw [(taskSpawns_spec root t args cf cmds).1, List.mem_map] at h
  obtain ⟨c, hc, rfl⟩ := h
  exact ⟨c, List.mem_of_mem_take hc, rfl⟩

theorem runTasks_cons (root : String) (args : List String) (cf : String → Bool) (k : Nat) (t : Task)
    (rest : List Task) (e : Nat) :
    runTasks root args cf k (t :: rest) e =
      if (taskSpawns root t args cf t.cmd).2 then
        ((taskSpawns root t args cf t.cmd).1 ++ (runTasks root args cf k rest e).1, (runTasks root args cf k rest e).2)
      else if k > 0 && e + 1 ≥ k then ((taskSpawns root t args cf t.cmd).1, e + 1)
      else ((taskSpawns root t args cf t.cmd).1 ++ (runTasks root args cf k rest (e + 1)).1,
            (runTasks root args cf k rest (e + 1)).2) := by
  rfl

/-- the keep-going rule with an arbitrary initial error count -/
theorem runTasks_spec (root : String) (args : List String) (cf : String → Bool) (k : Nat) (tasks : List Task) (e : Nat) :
    ∃ n, n ≤ tasks.length ∧
      (runTasks root args cf k tasks e).1 =
        (tasks.take n).flatMap (fun t => (taskSpawns root t args cf t.cmd).1) ∧
      (runTasks root args cf k tasks e).2 = e + (tasks.take n).countP (taskFails cf) ∧
      ((k = 0 ∨ e + tasks.countP (taskFails cf) < k) → n = tasks.length) ∧
      (e < k → k ≤ e + tasks.countP (taskFails cf) →
        e + (tasks.take n).countP (taskFails cf) = k ∧
        ∀ m, m < n → e + (tasks.take m).countP (taskFails cf) < k) := by
  induction tasks generalizing e with
  | nil => exact ⟨0, Nat.le_refl _, rfl, rfl, fun _ => rfl, fun h1 h2 => absurd h2 (Nat.not_le_of_lt h1)⟩
  | cons t rest ih =>
    rw [runTasks_cons, show (taskSpawns root t args cf t.cmd).2 = !taskFails cf t from (taskSpawns_spec root t args cf t.cmd).2.1]
    cases hf : taskFails cf t with
    | false =>
      -- a task that succeeds: one more task in the prefix, the same count
      have hc : ∀ l : List Task, (t :: l).countP (taskFails cf) = l.countP (taskFails cf) :=
        fun l => List.countP_cons_of_neg (by rw [hf]; exact Bool.false_ne_true)
      obtain ⟨n, hn, h1, h2, h3, h4⟩ := ih e
      refine ⟨n + 1, Nat.succ_le_succ hn, ?_, ?_, ?_, ?_⟩ <;>
        simp only [Bool.not_false, if_true, List.take_succ_cons, hc, List.length_cons]
      · rw [List.flatMap_cons, h1]
      · exact h2
      · exact fun h => congrArg (· + 1) (h3 h)
      · exact fun ha hb => ⟨(h4 ha hb).1,
          Nat.forall_lt_succ_left.mpr ⟨ha, fun m hm => by rw [List.take_succ_cons, hc]; exact (h4 ha hb).2 m hm⟩⟩
    | true =>
      -- a failing task counts 1: `e + (1 + c) = e + 1 + c`, the count the rest starts from
      have hc : ∀ l : List Task, e + (t :: l).countP (taskFails cf) = e + 1 + l.countP (taskFails cf) :=
        fun l => by rw [List.countP_cons_of_pos hf, Nat.add_comm _ 1, Nat.add_assoc]
      simp only [Bool.not_true, Bool.false_eq_true, if_false]
      by_cases hstop : (decide (k > 0) && decide (e + 1 ≥ k)) = true
      · -- the `k`-th failure: stop here
        rw [if_pos hstop]
        simp only [Bool.and_eq_true, decide_eq_true_eq] at hstop
        refine ⟨1, Nat.succ_le_succ (Nat.zero_le _), (List.append_nil _).symm, (hc []).symm, ?_, ?_⟩ <;>
          simp only [List.take_succ_cons, List.take_zero, hc, List.countP_nil, Nat.add_zero]
        · rintro (h | h)
          · exact absurd hstop.1 (h ▸ Nat.lt_irrefl 0)
          · exact absurd (Nat.lt_of_lt_of_le h hstop.2) (Nat.not_lt_of_le (Nat.le_add_right _ _))
        · exact fun h1 _ => ⟨Nat.le_antisymm h1 hstop.2,
            Nat.forall_lt_succ_left.mpr ⟨h1, fun _ h => absurd h (Nat.not_lt_zero _)⟩⟩
      · -- a failure that is tolerated: go on with one more error
        rw [if_neg hstop]
        simp only [Bool.and_eq_true, decide_eq_true_eq, not_and, Nat.not_le] at hstop
        obtain ⟨n, hn, h1, h2, h3, h4⟩ := ih (e + 1)
        refine ⟨n + 1, Nat.succ_le_succ hn, ?_, ?_, ?_, ?_⟩ <;> simp only [List.take_succ_cons, hc, List.length_cons]
        · rw [List.flatMap_cons, h1]
        · exact h2
        · exact fun h => congrArg (· + 1) (h3 h)
        · intro ha hb
          obtain ⟨h5, h6⟩ := h4 (hstop (Nat.zero_lt_of_lt ha)) hb
          exact ⟨h5, Nat.forall_lt_succ_left.mpr ⟨ha, fun m hm => by rw [List.take_succ_cons, hc]; exact h6 m hm⟩⟩

/-- `--keep-going k`: the tasks executed are a prefix `tasks.take n` of the task list;
    `errors` is the number of failing tasks in it; the prefix is everything when `k = 0` or fewer
    than `k` tasks fail, and otherwise the shortest prefix containing `k` failing tasks. -/
theorem keep_going (root : String) (args : List String) (cf : String → Bool) (k : Nat) (tasks : List Task) :
    ∃ n, n ≤ tasks.length ∧
      (runTasks root args cf k tasks 0).1 =
        (tasks.take n).flatMap (fun t => (taskSpawns root t args cf t.cmd).1) ∧
      (runTasks root args cf k tasks 0).2 = (tasks.take n).countP (taskFails cf) ∧
      ((k = 0 ∨ tasks.countP (taskFails cf) < k) → n = tasks.length) ∧
      (0 < k → k ≤ tasks.countP (taskFails cf) →
        (tasks.take n).countP (taskFails cf) = k ∧
        ∀ m, m < n → (tasks.take m).countP (taskFails cf) < k) := by
  obtain ⟨n, hn, h1, h2, h3, h4⟩ := runTasks_spec root args cf k tasks 0
  simp only [Nat.zero_add] at h2 h3 h4
  exact ⟨n, hn, h1, h2, h3, h4⟩

theorem runTasks_mem {root : String} {args : List String} {cf : String → Bool} {k : Nat} {tasks : List Task} {e : Nat}
    {s : Spawn} (h : s ∈ (runTasks root args cf k tasks e).1) :
    ∃ t ∈ tasks, ∃ c ∈ t.cmd, s = shOf root t args c := by
  obtain ⟨n, _, h1, _⟩ := runTasks_spec root args cf k tasks e
  rw [h1, List.mem_flatMap] at h
  obtain ⟨t, ht, hs⟩ := h
  exact ⟨t, List.mem_of_mem_take ht, taskSpawns_mem hs⟩

theorem runTasks_no_ninja {root : String} {args : List String} {cf : String → Bool} {k : Nat} {tasks : List Task} {e : Nat}
    {s : Spawn} (h : s ∈ (runTasks root args cf k tasks e).1) (argv : List String) : s ≠ .ninja argv := by
  obtain ⟨t, _, c, _, rfl⟩ := runTasks_mem h
  simp [shOf]

theorem runTasks_errors (root : String) (args : List String) (cf : String → Bool) (k : Nat) (tasks : List Task) (e : Nat) :
    (runTasks root args cf k tasks e).1.any (spawnFails cf) = decide ((runTasks root args cf k tasks e).2 > e) := by
  obtain ⟨n, _, h1, h2, _⟩ := runTasks_spec root args cf k tasks e
  rw [h1, h2, List.any_flatMap]
  simp only [(taskSpawns_spec ..).2.2]
  rw [Bool.eq_iff_iff, List.any_eq_true, decide_eq_true_eq, gt_iff_lt, Nat.lt_add_right_iff_pos, List.countP_pos_iff]
  exact Iff.rfl

example : runTasks "" [] (fun c => c == "false") 1
    [{ cmd := ["true", "false", "echo"] }, { cmd := ["echo"] }] 0 =
    ([.sh "" [] "true" [], .sh "" [] "false" []], 1) := by decide +kernel

example : runTasks "" [] (fun c => c == "false") 0
    [{ cmd := ["true", "false", "echo"] }, { cmd := ["echo $$x"] }] 0 =
    ([.sh "" [] "true" [], .sh "" [] "false" [], .sh "" [] "echo $x" []], 1) := by decide +kernel

/-! ## which tasks are run -/

theorem sh_mem_runBuild {st : Settings} {a : Args} {fl : Flags} {builds : List BuildInfo} {t : String}
    {args : List String} {ninjaRc : Nat} {cmdFails : String → Bool} {s : Spawn}
    (h : s ∈ (runBuild st a fl builds (some (t, args)) ninjaRc cmdFails).1) :
    s ∈ pre st a fl builds t ∨
    s ∈ (runTasks st.projectRoot args cmdFails fl.keepGoing ((runnable a builds t).map (·.2)) 0).1 := by
  rcases runBuild_task_cases st a fl builds t args ninjaRc cmdFails with
    ⟨_, e⟩ | ⟨_, _, e⟩ | ⟨_, _, _, _, e⟩ | ⟨_, _, _, e⟩ <;> rw [e] at h
  · cases h
  · cases h
  · exact .inl h
  · exact List.mem_append.mp h

/-- every shell process of `laze build <task>` is a command of the task of a build of the
    generated file that is selected by `--builders`/`--apps` and for which the task is runnable:
    the command line is the `$$`→`$` form of one of the task's commands, the working directory and
    the environment are the task's, the arguments are the ones given on the command line. -/
theorem runs_only_selected_runnable {st : Settings} {a : Args} {fl : Flags} {builds : List BuildInfo} {t : String}
    {args : List String} {ninjaRc : Nat} {cmdFails : String → Bool} {cwd : String} {env : List (String × String)}
    {cmd : String} {as : List String}
    (h : Spawn.sh cwd env cmd as ∈ (runBuild st a fl builds (some (t, args)) ninjaRc cmdFails).1) :
    ∃ i ∈ builds, selected a i = true ∧ ∃ tk, taskOf i t = some (.ok tk) ∧ ∃ c ∈ tk.cmd,
      cmd = String.ofList (unescapeDollar c.toList) ∧
      cwd = (match tk.workdir with | some w => pathPush st.projectRoot w | none => st.projectRoot) ∧
      env = (tk.export.getD []).filterMap (fun e => e.content.map (fun v => (e.var, v))) ∧
      as = args := by
  rcases sh_mem_runBuild h with h | h
  · cases pre_mem h
  · obtain ⟨tk, htk, c, hc, heq⟩ := runTasks_mem h
    obtain ⟨⟨i, tk'⟩, hm, rfl⟩ := List.mem_map.mp htk
    obtain ⟨hb, hs, ht⟩ := mem_runnable.mp hm
    injection heq with h1 h2 h3 h4
    exact ⟨i, hb, hs, tk', ht, c, hc, h3, h1, h2, h4⟩

/-! ## refusals -/

/-- several selected builds define the task and `--multiple-tasks` is not given:
    nothing is spawned, exit status 1 -/
theorem refuses_several (st : Settings) (a : Args) (fl : Flags) (builds : List BuildInfo) (t : String)
    (args : List String) (ninjaRc : Nat) (cmdFails : String → Bool)
    (hseveral : (builds.filter (fun i => selected a i && (taskOf i t).isSome)).length > 1)
    (hm : fl.multiple = false) :
    runBuild st a fl builds (some (t, args)) ninjaRc cmdFails = ([], 1) := by
  rcases runBuild_task_cases st a fl builds t args ninjaRc cmdFails with
    ⟨_, h⟩ | ⟨_, _, h⟩ | ⟨_, hnr, _⟩ | ⟨_, hnr, _⟩
  · exact h
  · exact h
  · exact absurd ⟨hseveral, hm⟩ hnr
  · exact absurd ⟨hseveral, hm⟩ hnr

/-- in particular: several *runnable* matches are refused -/
theorem refuses_several_runnable (st : Settings) (a : Args) (fl : Flags) (builds : List BuildInfo) (t : String)
    (args : List String) (ninjaRc : Nat) (cmdFails : String → Bool)
    (hseveral : (runnable a builds t).length > 1) (hm : fl.multiple = false) :
    runBuild st a fl builds (some (t, args)) ninjaRc cmdFails = ([], 1) :=
  refuses_several st a fl builds t args ninjaRc cmdFails
    (Nat.lt_of_lt_of_le hseveral (runnable_length_le a builds t)) hm

/-- no selected build has the task runnable: nothing is spawned, exit status 1 -/
theorem none_runnable_fails (st : Settings) (a : Args) (fl : Flags) (builds : List BuildInfo) (t : String)
    (args : List String) (ninjaRc : Nat) (cmdFails : String → Bool)
    (hnone : ∀ i ∈ builds, selected a i = true → ∀ tk, taskOf i t ≠ some (.ok tk)) :
    runBuild st a fl builds (some (t, args)) ninjaRc cmdFails = ([], 1) := by
  have : runnable a builds t = [] :=
    List.eq_nil_iff_forall_not_mem.mpr fun ⟨i, tk⟩ hm =>
      have ⟨hb, hs, ht⟩ := mem_runnable.mp hm
      hnone i hb hs tk ht
  rw [runBuild_task, this]
  rfl

theorem spawns_nonempty_not_refused {st : Settings} {a : Args} {fl : Flags} {builds : List BuildInfo} {t : String}
    {args : List String} {ninjaRc : Nat} {cmdFails : String → Bool}
    (h : (runBuild st a fl builds (some (t, args)) ninjaRc cmdFails).1 ≠ []) :
    runnable a builds t ≠ [] ∧ ¬ refused a fl builds t := by
  rcases runBuild_task_cases st a fl builds t args ninjaRc cmdFails with
    ⟨_, e⟩ | ⟨_, _, e⟩ | ⟨hr, hnr, _⟩ | ⟨hr, hnr, _⟩
  · exact absurd (by rw [e]) h
  · exact absurd (by rw [e]) h
  · exact ⟨hr, hnr⟩
  · exact ⟨hr, hnr⟩

/-! ## the app is built first -/

/-- unless laze refuses: if some runnable match has `build: true` and `-G` is not given,
    the first process is `ninja -f <file> [-v] [-j n] <targets>` where the targets are exactly the
    `out` of the runnable matches with `build: true`, in order; no other ninja process follows; and
    if ninja fails nothing else is spawned and the status is 1. -/
theorem build_first' {st : Settings} {a : Args} {fl : Flags} {builds : List BuildInfo} {t : String}
    {args : List String} {ninjaRc : Nat} {cmdFails : String → Bool}
    (hnr : ¬ refused a fl builds t)
    (hb : ∃ p ∈ runnable a builds t, p.2.build = true) (hG : fl.generateOnly = false) :
    ∃ rest, (runBuild st a fl builds (some (t, args)) ninjaRc cmdFails).1 =
        .ninja (ninjaArgv (ninjaFile st a.mode) (fl.verbose > 0) fl.jobs none
          (some (((runnable a builds t).filter (fun p => p.2.build)).map (fun p => p.1.out)))) :: rest ∧
      (∀ s ∈ rest, ∀ argv, s ≠ .ninja argv) ∧
      (ninjaRc ≠ 0 → rest = [] ∧ (runBuild st a fl builds (some (t, args)) ninjaRc cmdFails).2 = 1) := by
  have hpre := (pre_eq st a fl builds t).trans (if_pos ⟨hb, hG⟩)
  rcases runBuild_task_cases st a fl builds t args ninjaRc cmdFails with
    ⟨hr, _⟩ | ⟨_, hf, _⟩ | ⟨_, _, _, _, e⟩ | ⟨_, _, hrc, e⟩
  · obtain ⟨p, hp, _⟩ := hb
    rw [hr] at hp; cases hp
  · exact absurd hf hnr
  · rw [e, hpre]
    exact ⟨[], rfl, List.forall_mem_nil _, fun _ => ⟨rfl, rfl⟩⟩
  · rw [e, hpre]
    exact ⟨_, rfl, fun s hs argv => runTasks_no_ninja hs argv,
      fun h => absurd (hrc (by rw [hpre]; exact List.cons_ne_nil _ _)) h⟩

/-- `build_first'` with "`runBuild` spawns something" in place of "laze does not refuse" -/
theorem build_first {st : Settings} {a : Args} {fl : Flags} {builds : List BuildInfo} {t : String}
    {args : List String} {ninjaRc : Nat} {cmdFails : String → Bool}
    (hne : (runBuild st a fl builds (some (t, args)) ninjaRc cmdFails).1 ≠ [])
    (hb : ∃ p ∈ runnable a builds t, p.2.build = true) (hG : fl.generateOnly = false) :
    ∃ rest, (runBuild st a fl builds (some (t, args)) ninjaRc cmdFails).1 =
        .ninja (ninjaArgv (ninjaFile st a.mode) (fl.verbose > 0) fl.jobs none
          (some (((runnable a builds t).filter (fun p => p.2.build)).map (fun p => p.1.out)))) :: rest ∧
      (∀ s ∈ rest, ∀ argv, s ≠ .ninja argv) ∧
      (ninjaRc ≠ 0 → rest = [] ∧ (runBuild st a fl builds (some (t, args)) ninjaRc cmdFails).2 = 1) :=
  build_first' (spawns_nonempty_not_refused hne).2 hb hG

theorem ninja_spawned_iff {st : Settings} {a : Args} {fl : Flags} {builds : List BuildInfo} {t : String}
    {args : List String} {ninjaRc : Nat} {cmdFails : String → Bool} :
    (∃ argv, Spawn.ninja argv ∈ (runBuild st a fl builds (some (t, args)) ninjaRc cmdFails).1) ↔
      ¬ refused a fl builds t ∧ (∃ p ∈ runnable a builds t, p.2.build = true) ∧ fl.generateOnly = false := by
  constructor
  · rintro ⟨argv, h⟩
    -- a ninja process of `laze build <task>` is the call before the tasks
    rcases sh_mem_runBuild h with h' | h'
    · rw [pre_eq] at h'
      split at h'
      · rename_i hb
        exact ⟨(spawns_nonempty_not_refused (List.ne_nil_of_mem h)).2, hb⟩
      · cases h'
    · exact absurd rfl (runTasks_no_ninja h' argv)
  · rintro ⟨hnr, hb, hG⟩
    obtain ⟨rest, h, _⟩ := build_first' (st := st) (args := args) (ninjaRc := ninjaRc) (cmdFails := cmdFails) hnr hb hG
    exact ⟨_, by rw [h]; exact List.mem_cons_self⟩

/-- with `build: false` for every runnable match, or with `-G`, ninja is not run -/
theorem no_build {st : Settings} {a : Args} {fl : Flags} {builds : List BuildInfo} {t : String}
    {args : List String} {ninjaRc : Nat} {cmdFails : String → Bool}
    (h : (∀ p ∈ runnable a builds t, p.2.build = false) ∨ fl.generateOnly = true) :
    ∀ s ∈ (runBuild st a fl builds (some (t, args)) ninjaRc cmdFails).1, ∀ argv, s ≠ .ninja argv := by
  rintro _ hs argv rfl
  obtain ⟨_, ⟨p, hp, hpb⟩, hG⟩ := ninja_spawned_iff.mp ⟨argv, hs⟩
  rcases h with h | h
  · rw [h p hp] at hpb; cases hpb
  · rw [hG] at h; cases h

/-! ## exit status -/

/-- the status is 0 or 1 (for `laze build` with or without a task) -/
theorem exit_code_01 (st : Settings) (a : Args) (fl : Flags) (builds : List BuildInfo)
    (task : Option (String × List String)) (ninjaRc : Nat) (cmdFails : String → Bool) :
    (runBuild st a fl builds task ninjaRc cmdFails).2 = 0 ∨ (runBuild st a fl builds task ninjaRc cmdFails).2 = 1 := by
  cases task with
  | none =>
    unfold runBuild
    dsimp only
    split
    · exact .inl rfl
    · split
      · exact .inl rfl
      · dsimp only
        split
        · exact .inl rfl
        · exact .inr rfl
  | some p =>
    rcases runBuild_task_cases st a fl builds p.1 p.2 ninjaRc cmdFails with
      ⟨_, e⟩ | ⟨_, _, e⟩ | ⟨_, _, _, _, e⟩ | ⟨_, _, _, e⟩ <;> rw [e]
    · exact .inr rfl
    · exact .inr rfl
    · exact .inr rfl
    · dsimp only; split
      · exact .inr rfl
      · exact .inl rfl

/-- `laze build <task>` exits non-zero iff it refuses (no runnable match / several
    matches without `--multiple-tasks`), or the ninja process it spawned failed, or some spawned
    task command failed. -/
theorem exit_code (st : Settings) (a : Args) (fl : Flags) (builds : List BuildInfo) (t : String)
    (args : List String) (ninjaRc : Nat) (cmdFails : String → Bool) :
    (runBuild st a fl builds (some (t, args)) ninjaRc cmdFails).2 ≠ 0 ↔
      (runnable a builds t = [] ∨ refused a fl builds t) ∨
      ((∃ argv, Spawn.ninja argv ∈ (runBuild st a fl builds (some (t, args)) ninjaRc cmdFails).1) ∧ ninjaRc ≠ 0) ∨
      (runBuild st a fl builds (some (t, args)) ninjaRc cmdFails).1.any (spawnFails cmdFails) = true := by
  rcases runBuild_task_cases st a fl builds t args ninjaRc cmdFails with
    ⟨hr, e⟩ | ⟨_, hf, e⟩ | ⟨_, _, hp, hrc, e⟩ | ⟨hr, hnr, hrc, e⟩ <;> rw [e]
  · exact ⟨fun _ => .inl (.inl hr), fun _ => Nat.one_ne_zero⟩
  · exact ⟨fun _ => .inl (.inr hf), fun _ => Nat.one_ne_zero⟩
  · obtain ⟨s, hs⟩ := List.exists_mem_of_ne_nil _ hp
    exact ⟨fun _ => .inr (.inl ⟨⟨_, pre_mem hs ▸ hs⟩, hrc⟩), fun _ => Nat.one_ne_zero⟩
  · -- the tasks were run: the status says whether one of them failed; a ninja call before them succeeded
    have hany : (pre st a fl builds t).any (spawnFails cmdFails) = false :=
      List.any_eq_false.mpr fun s hs => by rw [pre_mem hs]; exact Bool.false_ne_true
    dsimp only
    rw [List.any_append, hany, Bool.false_or, runTasks_errors, decide_eq_true_eq]
    constructor
    · intro h
      refine .inr (.inr ?_)
      split at h
      · assumption
      · exact absurd rfl h
    · rintro ((h | h) | ⟨⟨argv, hm⟩, h⟩ | h)
      · exact absurd h hr
      · exact absurd h hnr
      · rcases List.mem_append.mp hm with hm | hm
        · exact absurd (hrc (List.ne_nil_of_mem hm)) h
        · exact absurd rfl (runTasks_no_ninja hm argv)
      · rw [if_pos h]; exact Nat.one_ne_zero

/-! ## examples: two builds, the task `flash` runnable for both -/

def exTask (build : Bool) : Task := { cmd := ["flash $${x}", "false", "never"], build := build }

def exBuilds : List BuildInfo :=
  [ { builder := "b1", app := "app", out := "build/out/b1/app/app.elf", modules := [], globalFlat := [],
      moduleFlat := [], tasks := [("flash", .ok (exTask true))], entries := [] },
    { builder := "b2", app := "app", out := "build/out/b2/app/app.elf", modules := [], globalFlat := [],
      moduleFlat := [], tasks := [("flash", .ok (exTask false)), ("debug", .missingVar "PORT")], entries := [] } ]

def exFails (c : String) : Bool := c == "false"

/-- both builds match: refused without `--multiple-tasks` (hypotheses of `refuses_several`) -/
example : (exBuilds.filter (fun i => selected {} i && (taskOf i "flash").isSome)).length > 1 := by decide +kernel
example : runBuild {} {} {} exBuilds (some ("flash", [])) 0 exFails = ([], 1) := by decide +kernel
/-- `debug` is defined but not runnable: `none_runnable_fails` -/
example : runBuild {} {} {} exBuilds (some ("debug", [])) 0 exFails = ([], 1) := by decide +kernel
/-- one builder selected: ninja first (only `b1` has `build: true`), then the commands up to the
    failing one; status 1 -/
example : runBuild {} { builders := .some ["b1"] } {} exBuilds (some ("flash", ["a"])) 0 exFails =
    ([.ninja ["-f", "build/build-global.ninja", "build/out/b1/app/app.elf"],
      .sh "" [] "flash ${x}" ["a"], .sh "" [] "false" ["a"]], 1) := by decide +kernel
/-- `build: false`: no ninja -/
example : runBuild {} { builders := .some ["b2"] } {} exBuilds (some ("flash", [])) 0 exFails =
    ([.sh "" [] "flash ${x}" [], .sh "" [] "false" []], 1) := by decide +kernel
/-- `--multiple-tasks`, `--keep-going 1` (the default): stops after the first failing task -/
example : runBuild {} {} { multiple := true } exBuilds (some ("flash", [])) 0 exFails =
    ([.ninja ["-f", "build/build-global.ninja", "build/out/b1/app/app.elf"],
      .sh "" [] "flash ${x}" [], .sh "" [] "false" []], 1) := by decide +kernel
/-- `--keep-going 0`: both tasks are executed -/
example : runBuild {} {} { multiple := true, keepGoing := 0 } exBuilds (some ("flash", [])) 0 exFails =
    ([.ninja ["-f", "build/build-global.ninja", "build/out/b1/app/app.elf"],
      .sh "" [] "flash ${x}" [], .sh "" [] "false" [],
      .sh "" [] "flash ${x}" [], .sh "" [] "false" []], 1) := by decide +kernel
/-- ninja fails: nothing else is spawned -/
example : runBuild {} {} { multiple := true } exBuilds (some ("flash", [])) 2 exFails =
    ([.ninja ["-f", "build/build-global.ninja", "build/out/b1/app/app.elf"]], 1) := by decide +kernel
/-- the hypotheses of `build_first'` are satisfiable -/
example : ¬ refused {} { multiple := true } exBuilds "flash" ∧
    (∃ p ∈ runnable {} exBuilds "flash", p.2.build = true) := by
  refine ⟨fun h => ?_, ⟨(exBuilds[0]'(by decide), exTask true), ?_, rfl⟩⟩
  · exact absurd h.2 (by decide)
  · exact mem_runnable.mpr ⟨List.mem_cons_self, by decide, rfl⟩

/-- NOTE (behaviour of model and code, weaker than the wording "several *runnable* matches"): two
    selected builds *define* `debug`, it is runnable for only ONE of them (for the other `PORT` is
    missing) — laze still refuses without `--multiple-tasks`, although there is nothing to choose -/
def exBuilds2 : List BuildInfo :=
  [ { builder := "b1", app := "app", out := "o1", modules := [], globalFlat := [],
      moduleFlat := [], tasks := [("debug", .ok (exTask false))], entries := [] },
    { builder := "b2", app := "app", out := "o2", modules := [], globalFlat := [],
      moduleFlat := [], tasks := [("debug", .missingVar "PORT")], entries := [] } ]
example : (runnable {} exBuilds2 "debug").length = 1 ∧
    runBuild {} {} {} exBuilds2 (some ("debug", [])) 0 exFails = ([], 1) ∧
    runBuild {} {} { multiple := true } exBuilds2 (some ("debug", [])) 0 exFails =
      ([.sh "" [] "flash ${x}" [], .sh "" [] "false" []], 1) := by decide +kernel

end Laze.C16
