import LazeModel.Lemmas.Finalize
/-! C17 / C14, the var_options pass of `finalize` as an instance of `pass_inherited` (Lemmas/Finalize): a context ends up with the
    options of the nearest context on its parent chain that sets some. -/
namespace Laze.C17
open Laze

/-- the options a context ends up with: its own if it has some, else its parent's -/
def ownOr (own parent : Option VarOpts) : Option VarOpts :=
  match own with
  | some o => some o
  | none => parent

theorem setVarOptions_self (c : Context) : setVarOptions c.varOptions c = c := rfl

theorem inheritVarOptions_step (cs : List Context) (n : Name) (k : Nat) (c par : Context) (hk : k ≠ 0)
    (hc : findCtx cs n = some c) (hp : parentCtx cs c = some par) :
    findCtx (inheritVarOptions cs (n, k)) n = some (setVarOptions (ownOr c.varOptions par.varOptions) c) ∧
    ∀ n', n' ≠ n → findCtx (inheritVarOptions cs (n, k)) n' = findCtx cs n' := by
  unfold inheritVarOptions
  simp only [beq_eq_false_iff_ne.2 hk, Bool.false_eq_true, if_false, hc, hp]
  cases hv : c.varOptions with
  | some o =>
    rw [if_neg (show ¬ (some o).isNone = true from Bool.false_ne_true)]
    exact ⟨by rw [hc, ownOr, ← hv, setVarOptions_self], fun _ _ => rfl⟩
  | none =>
    have hu := findCtx_updateCtx hc (setVarOptions par.varOptions) (fun _ => rfl)
    rw [if_pos (show (none : Option VarOpts).isNone = true from rfl)]
    exact ⟨by rw [hu, if_pos rfl]; rfl, fun n' hn' => by rw [hu, if_neg hn']⟩

/-- roots (recorded parent count 0) are never touched -/
theorem inheritVarOptions_root (cs : List Context) (n : Name) : inheritVarOptions cs (n, 0) = cs := rfl

/-- "unless they define their own": a context with own options keeps them -/
theorem inheritVarOptions_own (cs : List Context) (n : Name) (k : Nat) (c : Context) (o : VarOpts)
    (hc : findCtx cs n = some c) (ho : c.varOptions = some o) : inheritVarOptions cs (n, k) = cs := by
  unfold inheritVarOptions
  split
  · rfl
  · rw [hc]
    simp only
    split
    · rfl
    · rw [ho]; rfl

/-- grandparent `g` (already final), parent `p`, child `c`, processed in this
    order: the child gets its own options, else the parent's own, else the grandparent's -/
theorem inherit_two_levels (cs : List Context) (g p c : Context) (k1 k2 : Nat) (hk1 : k1 ≠ 0) (hk2 : k2 ≠ 0)
    (hg : findCtx cs g.name = some g) (hp : findCtx cs p.name = some p) (hc : findCtx cs c.name = some c)
    (hpp : p.parent = some g.name) (hcp : c.parent = some p.name) (hne : c.name ≠ p.name) :
    findCtx ([(p.name, k1), (c.name, k2)].foldl inheritVarOptions cs) c.name =
      some (setVarOptions (ownOr c.varOptions (ownOr p.varOptions g.varOptions)) c) := by
  have s1 := inheritVarOptions_step cs p.name k1 p g hk1 hp (by unfold parentCtx; rw [hpp]; exact hg)
  have hpar : parentCtx (inheritVarOptions cs (p.name, k1)) c =
      some (setVarOptions (ownOr p.varOptions g.varOptions) p) := by
    unfold parentCtx; rw [hcp]; exact s1.1
  exact (inheritVarOptions_step _ c.name k2 c _ hk2 ((s1.2 c.name hne).trans hc) hpar).1

/-- `r` are the options of the nearest context on the parent chain of `n` (`n` itself first)
    that defines some; `none` if the chain ends at a root without any -/
inductive Nearest (cs : List Context) : Name → Option VarOpts → Prop where
  | own {n c o} : findCtx cs n = some c → c.varOptions = some o → Nearest cs n (some o)
  | root {n c} : findCtx cs n = some c → c.varOptions = none → c.parent = none → Nearest cs n none
  | up {n c p r} : findCtx cs n = some c → c.varOptions = none → c.parent = some p → Nearest cs p r →
      Nearest cs n r

theorem Nearest.unique {cs : List Context} {n : Name} {r r' : Option VarOpts}
    (h : Nearest cs n r) (h' : Nearest cs n r') : r = r' := by
  induction h generalizing r' with
  | own hc hv =>
    cases h' with
    | own hc' hv' => cases hc.symm.trans hc'; exact hv.symm.trans hv'
    | root hc' hv' _ => cases hc.symm.trans hc'; cases hv.symm.trans hv'
    | up hc' hv' _ _ => cases hc.symm.trans hc'; cases hv.symm.trans hv'
  | root hc hv hp =>
    cases h' with
    | own hc' hv' => cases hc.symm.trans hc'; cases hv.symm.trans hv'
    | root _ _ _ => rfl
    | up hc' _ hp' _ => cases hc.symm.trans hc'; cases hp.symm.trans hp'
  | up hc hv hp _ ih =>
    cases h' with
    | own hc' hv' => cases hc.symm.trans hc'; cases hv.symm.trans hv'
    | root hc' _ hp' => cases hc.symm.trans hc'; cases hp.symm.trans hp'
    | up hc' _ hp' hn' => cases hc.symm.trans hc'; cases hp.symm.trans hp'; exact ih hn'

theorem Nearest.of_root {cs : List Context} {n : Name} {c : Context} (hc : findCtx cs n = some c)
    (hp : c.parent = none) : Nearest cs n c.varOptions := by
  cases hv : c.varOptions with
  | some o => exact .own hc hv
  | none => exact .root hc hv hp

/-- the options pass: the context keeps its options if it has some, else takes its parent's -/
def voStep (par c : Context) : Context := setVarOptions (ownOr c.varOptions par.varOptions) c

theorem inheritVarOptions_pass : PassStep inheritVarOptions voStep where
  upd := fun {cs n k c par} hk hc hp n' => by
    obtain ⟨h1, h2⟩ := inheritVarOptions_step cs n k c par hk hc hp
    by_cases hn : n' = n
    · rw [if_pos hn, hn]; exact h1
    · rw [if_neg hn]; exact h2 n' hn
  skip := fun {cs n k} h => by
    unfold inheritVarOptions
    split
    · rfl
    · next hk =>
      cases hc : findCtx cs n with
      | none => rfl
      | some c => dsimp only; rw [h.resolve_left (by simpa using hk) c hc]

theorem nearest_of_inherited {cs : List Context} {n : Name} {c' : Context} (h : Inherited cs voStep n c') :
    ∃ c r, findCtx cs n = some c ∧ c' = setVarOptions r c ∧ Nearest cs n r := by
  induction h with
  | root hc hp => exact ⟨_, _, hc, rfl, .of_root hc hp⟩
  | @up n c p par' hc hp _ ih =>
    obtain ⟨pc, r, _, rfl, hr⟩ := ih
    refine ⟨c, _, hc, rfl, ?_⟩
    cases hv : c.varOptions with
    | some o => exact .own hc hv
    | none => exact .up hc hv hp hr

/-- **C14, inheritance of var_options** (the options pass of `finalize`, for ANY list processed
    parents-first): every listed context ends up with the options of the nearest context on its
    parent chain — itself first — that defines some; nothing else of the context changes. -/
theorem inherit_nearest (cs : List Context) (sorted : List (Name × Nat))
    (H1 : (sorted.map (·.1)).Nodup) (H2 : ParentsFirst cs sorted) (H3 : CountsOK cs sorted)
    (n : Name) (c : Context) (hc : findCtx cs n = some c) (hn : n ∈ sorted.map (·.1)) :
    ∃ r, findCtx (sorted.foldl inheritVarOptions cs) n = some (setVarOptions r c) ∧ Nearest cs n r := by
  obtain ⟨c', h1, h2⟩ := pass_inherited inheritVarOptions_pass cs sorted H1 H2 H3 n c hc hn
  obtain ⟨c₀, r, hc₀, rfl, hr⟩ := nearest_of_inherited h2
  rw [hc] at hc₀; cases hc₀
  exact ⟨r, h1, hr⟩

/-! `inherit_nearest` speaks of the options pass on a bag `cs`. In `finalize` that bag is what the env pass
    (`mergeParentEnv`, run first, over the same list) has made of the loaded contexts `cs₀`. Proved: the
    list `finalize` folds over satisfies `ParentsFirst cs₀` and `CountsOK cs₀`, and `Nodup` when context names
    are unique (`finalize_sorted`); the env pass changes no context's parent
    (`C04.foldl_mergeParentEnv_parOf`), nor its `varOptions` (`envStep` keeps both: `PassStep.foldl_keeps`). NOT
    proved: that with this the three hypotheses and `Nearest` carry over from `cs₀` to the bag the options pass
    starts from. So `inherit_nearest` is not stated for `finalize` itself; the concrete runs below go through the
    real `finalize`. -/

namespace Inherit
def oA : VarOpts := [("CFLAGS", { joiner := some "," })]
def oB : VarOpts := [("CFLAGS", { «prefix» := some "-D" })]
def g : Context := { name := "default", parent := none, varOptions := some oA }
def p : Context := { name := "p", parent := some "default" }
def c : Context := { name := "c", parent := some "p" }
def q : Context := { name := "q", parent := some "default", varOptions := some oB }
def qc : Context := { name := "qc", parent := some "q" }

def optsOf (r : Except LErr (List Context × List (Name × Nat))) :
    List (String × Option (List (String × MergeOption))) :=
  match r with
  | .ok r => r.1.map (fun x => (x.name, x.varOptions))
  | .error _ => []

-- through the real `finalize` (children listed before their parents): `p` and `c` inherit the
-- root's options, `q` keeps its own and hands them to `qc`
example : optsOf (finalize [qc, c, p, q, g]) =
    [("qc", some oB), ("c", some oA), ("p", some oA), ("q", some oB), ("default", some oA)] := by decide +kernel

-- the hypotheses of `inherit_two_levels` are satisfiable
example : findCtx ([("p", 1), ("c", 2)].foldl inheritVarOptions [g, p, c]) "c" =
    some (setVarOptions (some oA) c) :=
  inherit_two_levels [g, p, c] g p c 1 2 (by decide) (by decide) rfl rfl rfl rfl rfl (by decide)
end Inherit

end Laze.C17
