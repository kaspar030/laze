import LazeModel.Generated.ResolverOrder
import LazeModel.Model.Resolver
/-! # C12 / C01 / C02 — translator obligation: the order of tests and state effects in `Resolver::resolve_module_deep`

`translators/resolverorder.py` re-reads src/build.rs on every run. The model (`Model/Resolver.lean`) states the resolver as
`enter` (admission tests, then registration) followed by the dependency loop `resolveDepsW` with "error = the caller keeps its state";
`C12.l1_refines_l2` proves that this is what an explicit snapshot stack implements *provided* the snapshot is taken after the admission
tests and before ANY registration, is rolled back exactly on a hard failure and dropped exactly on success. That proviso is a fact
about the source text; it is checked here:

  admission tests (already selected → Ok; disabled; conflicts a selected / provided name; provides a disabled name)   [no state change]
  `state_push`                                                                                                       [snapshot]
  register conflicts, provides, the module (set + list)                                                              [`enter`]
  late if-then deps of this module's name, then the loop over `selects ++ late`                                      [`resolveDepsW`]
    if-then: condition selected → dependency, else park it and continue
    providers of the name first (`resolve_module_list`), skip the exact name when a provider claimed it
    then the module of that name; failure tolerated iff optional or provided, else `state_pop` + Err
  `state_stack.pop()`                                                                                                [drop snapshot]

A seeded change that skipped the snapshot for leaf modules, one that registered conflicts only after the dependencies, and one that
took the snapshot after the provides all produce a different list. -/
namespace Laze.C12order
open Laze

def reviewed : List (String × Nat) := [
  ("test:already-selected", 0), ("return:ok", 1),
  ("test:disabled", 0), ("return:err", 1),
  ("loop:conflicts", 1), ("test:conflicts-selected", 2), ("return:err", 3), ("test:conflicts-provided", 2), ("return:err", 3),
  ("loop:provides", 1), ("test:provides-disabled", 2), ("return:err", 3),
  ("snapshot:push", 0),
  ("loop:conflicts", 1), ("register:conflicts", 2),
  ("register:provides", 2),
  ("register:selected", 0), ("register:list", 0),
  ("late:read", 0),
  ("loop:deps", 0),
  ("ifthen:condition", 3), ("ifthen:park", 4), ("continue", 4),
  ("ifthen:condition", 3), ("ifthen:park", 4), ("continue", 4),
  ("providers:lookup", 2), ("providers:resolve", 3), ("providers:claimed-name-disabled", 4), ("continue", 5),
  ("name:resolve", 1), ("tolerate:optional-or-provided", 2), ("continue", 3),
  ("snapshot:rollback", 3), ("return:err-on-hard-failure", 3),
  ("snapshot:drop", 0)]

/-- **translator obligation**: today's `resolve_module_deep` performs the reviewed tests and effects in the reviewed order and nesting -/
theorem resolve_steps_reviewed : Generated.resolveSteps = reviewed := rfl

/-- the snapshot is taken once, at the top level of the function (not under a condition), after every admission test and before every
    registration — read off the reviewed list -/
theorem snapshot_between_tests_and_registration :
    (reviewed.filter (·.1 == "snapshot:push")) = [("snapshot:push", 0)] ∧
    (reviewed.takeWhile (·.1 != "snapshot:push")).all (fun s => !s.1.startsWith "register:") = true ∧
    ((reviewed.dropWhile (·.1 != "snapshot:push")).all (fun s => !s.1.startsWith "test:")) = true := by decide +kernel

/-- exactly one roll-back (on the hard-failure path, next to the error return) and one unconditional drop at the end -/
theorem rollback_and_drop :
    (reviewed.filter (·.1 == "snapshot:rollback")).length = 1 ∧ reviewed.getLast? = some ("snapshot:drop", 0) := by decide +kernel

/-- the model's `enter` performs the same three kinds of admission test before it registers anything: it fails with the error of
    one of them and with no other (an `.error` carries no state: that is what "no state change before the snapshot" comes to on the
    model side) -/
theorem enter_error_keeps_nothing (m : Mod) (s : RState) (e : RErr) (h : enter m s = .error e) :
    e = .disabled ∨ e = .conflict ∨ e = .providesDisabled := by
  revert h
  fun_cases enter m s with
  | case1 => rintro ⟨⟩; exact .inl rfl
  | case2 => rintro ⟨⟩; exact .inr (.inl rfl)
  | case3 => rintro ⟨⟩; exact .inr (.inr rfl)
  | case4 => rintro ⟨⟩

end Laze.C12order
