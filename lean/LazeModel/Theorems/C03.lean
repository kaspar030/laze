import LazeModel.Lemmas.GenSpec
import LazeModel.Theorems.C19_order
/-! C03 — the link statement of the app consumes exactly one object per source file of every
    selected module (optional sources iff their guard is selected), each object is produced by the
    rule whose input extension matches, taken from the nearest context of the builder's chain, and
    the output file is `${outfile}` (after POST_LINK if there is such a rule). -/
namespace Laze.C03
open Laze

/-! ## optional sources -/

/-- the effective sources: the module's own, then (in map order) those of every optional entry
    whose guard is selected -/
theorem effSources_eq (r : Resolved) (m : Module) :
    effSources r m =
      m.sources ++ (((m.sourcesOptional.getD []).filter (fun kv => r.has kv.1)).flatMap (·.2)) :=
  congrArg (m.sources ++ ·) (flatMap_ite (fun kv : Name × List String => r.has kv.1) (·.2) _)

theorem mem_effSources {r : Resolved} {m : Module} {s : String} :
    s ∈ effSources r m ↔
      s ∈ m.sources ∨ ∃ g l, (g, l) ∈ m.sourcesOptional.getD [] ∧ r.has g = true ∧ s ∈ l := by
  rw [effSources_eq, List.mem_append, List.mem_flatMap]
  simp only [List.mem_filter, Prod.exists, and_assoc]

/-- an optional source whose guard is not selected (and that is not a plain source or guarded by
    another, selected, module) is not compiled -/
theorem not_mem_effSources_of_unselected {r : Resolved} {m : Module} {s : String}
    (hs : s ∉ m.sources)
    (hg : ∀ g l, (g, l) ∈ m.sourcesOptional.getD [] → s ∈ l → r.has g = false) :
    s ∉ effSources r m := by
  intro h
  rcases mem_effSources.1 h with h | ⟨g, l, hgl, hsel, hsl⟩
  · exact hs h
  · rw [hg g l hgl hsl] at hsel
    cases hsel

example :
    effSources ⟨[{ name := "g", contextName := "default" }], []⟩
      { name := "m", contextName := "default", sources := ["a.c"],
        sourcesOptional := some [("g", ["b.c"]), ("h", ["c.c"])] } = ["a.c", "b.c"] := by decide +kernel

theorem addEntries_prefix (es l : List String) : ∃ t, addEntries es l = es ++ t :=
  let ⟨t, h⟩ := prefix_addEntries es l
  ⟨t, h.symm⟩

/-! ## one object per source, in order -/

/-- two lists related pointwise (core Lean has no `Forall₂`) -/
inductive Forall₂ {α β : Type} (R : α → β → Prop) : List α → List β → Prop
  | nil : Forall₂ R [] []
  | cons {a b as bs} : R a b → Forall₂ R as bs → Forall₂ R (a :: as) (b :: bs)

theorem Forall₂.length_eq {α β : Type} {R : α → β → Prop} {l : List α} {l' : List β}
    (h : Forall₂ R l l') : l.length = l'.length := by
  induction h with
  | nil => rfl
  | cons _ _ ih => rw [List.length_cons, List.length_cons, ih]

theorem Forall₂.imp_of_mem {α β : Type} {R S : α → β → Prop} {l : List α} {l' : List β}
    (h : Forall₂ R l l') (hi : ∀ a ∈ l, ∀ b ∈ l', R a b → S a b) : Forall₂ S l l' := by
  induction h with
  | nil => exact .nil
  | cons hab _ ih =>
    exact .cons (hi _ List.mem_cons_self _ List.mem_cons_self hab)
      (ih fun a ha b hb => hi a (List.mem_cons_of_mem _ ha) b (List.mem_cons_of_mem _ hb))

theorem Forall₂.get {α β : Type} {R : α → β → Prop} {l : List α} {l' : List β}
    (h : Forall₂ R l l') (i : Nat) (hi : i < l.length) (hi' : i < l'.length) : R l[i] l'[i] := by
  induction h generalizing i with
  | nil => cases hi
  | cons hab _ ih =>
    cases i with
    | zero => exact hab
    | succ j => exact ih j (Nat.lt_of_succ_lt_succ hi) (Nat.lt_of_succ_lt_succ hi')

theorem Forall₂.map_right {α β γ : Type} {R : α → γ → Prop} (g : β → γ) {l : List α} {l' : List β}
    (h : Forall₂ (fun a b => R a (g b)) l l') : Forall₂ R l (l'.map g) := by
  induction h with
  | nil => exact .nil
  | cons hab _ ih => exact .cons hab ih

theorem forall₂_of_mapM_ok {ε α β : Type} {f : α → Except ε β} {l : List α} {res : List β}
    (h : l.mapM f = .ok res) : Forall₂ (fun a b => f a = .ok b) l res := by
  induction l generalizing res with
  | nil => cases h; exact .nil
  | cons a t ih =>
    obtain ⟨b, hb, bs, hbs, rfl⟩ := mapM_ok_cons.1 h
    exact .cons hb (ih hbs)

section Loop
variable {ev : EvalExpr} {st : Settings} {builder appName : Name} {rules : List (String × Rule)}
  {mrules : List (String × NinjaRule)} {flat : Flat} {srcdir : String}
  {combined localDeps : Option (List String)} {srcTagfile : Option String}

/-- the compile loop produces exactly one object per source, in order; the entries grow by the statements of the sources
    and by nothing else -/
theorem compileSourcesLoop_ok {sources entries objects entries' objects'}
    (h : compileSourcesLoop ev st builder appName rules mrules flat srcdir combined localDeps
          srcTagfile sources entries objects = .ok (entries', objects')) :
    ∃ res : List (String × List String),
      sources.mapM (compileSource ev st builder appName rules mrules flat srcdir combined localDeps
        srcTagfile) = .ok res ∧
      objects' = objects ++ res.map (·.1) ∧
      (∀ p ∈ res, ∀ x ∈ p.2, x ∈ entries') ∧
      entries ⊆ entries' ∧
      (∀ x ∈ entries', x ∈ entries ∨ ∃ p ∈ res, x ∈ p.2) := by
  rw [compileSourcesLoop_eq] at h
  obtain ⟨res, hres, h⟩ := Except.map_eq_ok.1 h
  cases h
  exact ⟨res, hres, rfl, fun p hp x hx => mem_addEntries.2 (.inr (List.mem_flatMap.2 ⟨p, hp, hx⟩)),
    (prefix_addEntries _ _).subset, fun x hx => (mem_addEntries.1 hx).imp_right List.mem_flatMap.1⟩

/-! ## per source -/

/-- the FIRST statement of a source is the compile statement: exactly that one input, that one
    output, the rule `nr.name` -/
theorem compileSource_head {s : String} {obj : String} {stmts : List String}
    (h : compileSource ev st builder appName rules mrules flat srcdir combined localDeps srcTagfile s
          = .ok (obj, stmts)) :
    ∃ srcpath ext rule nr out,
      expandSrcPath ev flat srcdir s = .ok srcpath ∧
      pathExtension srcpath = some ext ∧
      rulesGet rules ext = some rule ∧
      rule.out = some out ∧
      obj = objectPath st builder appName rule nr (depsHashOf combined) out srcpath ∧
      stmts.head? = some (buildFromRule nr (some [srcpath]) [obj] combined).render ∧
      (buildFromRule nr (some [srcpath]) [obj] combined).inputs = some [srcpath] ∧
      (buildFromRule nr (some [srcpath]) [obj] combined).outs = [obj] ∧
      (buildFromRule nr (some [srcpath]) [obj] combined).rule = nr.name := by
  obtain ⟨srcpath, ext, rule, nr, out, h1, h2, h3, _, h5, h6, h7⟩ := compileSource_ok h
  exact ⟨srcpath, ext, rule, nr, out, h1, h2, h3, h5, h6, congrArg List.head? h7, rfl, rfl, rfl⟩

end Loop

/-! ## lifting through the module loop -/

section Lift
variable {ev : EvalExpr} {st : Settings} {builder appName : Name} {rules : List (String × Rule)}
  {flat : Flat} {srcdir : String}

/-- every entry of the module's rule table is the conversion (in the module's env) of the global
    rule for that extension, and its rendering is among the entries -/
def MRulesOK (ev : EvalExpr) (rules : List (String × Rule)) (flat : Flat) (entries : List String)
    (mrules : List (String × NinjaRule)) : Prop :=
  ∀ p ∈ mrules, ∃ rule, rulesGet rules p.1 = some rule ∧ ruleToNinja ev rule flat = .ok p.2 ∧
    p.2.render ∈ entries

theorem mrulesOK_of_mapM {sources es : List String} {ens : List (String × NinjaRule)}
    (h : sources.mapM (ruleForSource ev rules flat) = .ok ens) (hes : ∀ en ∈ ens, en.2.render ∈ es) :
    MRulesOK ev rules flat es (ens.foldl (fun t en => addModuleRule t en.1 en.2) []) := by
  intro p hp
  have hp : p ∈ ens := (mem_foldl_addModuleRule hp).resolve_left List.not_mem_nil
  obtain ⟨s, _, hs⟩ := mapM_ok_mem_right h hp
  obtain ⟨rule, _, hrule, hnr⟩ := ruleForSource_ok hs
  exact ⟨rule, hrule, hnr, hes p hp⟩

theorem MRulesOK.lookup {entries : List String} {mrules : List (String × NinjaRule)} {ext : String}
    {nr : NinjaRule} (hm : MRulesOK ev rules flat entries mrules)
    (h : (mrules.find? (·.1 == ext)).map (·.2) = some nr) :
    ∃ rule, rulesGet rules ext = some rule ∧ ruleToNinja ev rule flat = .ok nr ∧ nr.render ∈ entries :=
  hm (ext, nr) (C09.lk_mem h)

/-- what C03 says about one source `s` of a module (env `flat`, source directory `srcdir`, build-dep
    files `combined`) and its object `obj`: the object path is derived from the expanded source path
    and the rule found in the global rule table under the source's extension; that rule, converted
    in the module's env, and the compile statement (exactly one input: the source, exactly one
    output: the object) are among `entries` -/
def SourceObj (ev : EvalExpr) (st : Settings) (builder appName : Name) (rules : List (String × Rule))
    (flat : Flat) (srcdir : String) (combined : Option (List String)) (entries : List String)
    (s obj : String) : Prop :=
  ∃ srcpath ext rule nr out,
    expandSrcPath ev flat srcdir s = .ok srcpath ∧
    pathExtension srcpath = some ext ∧
    rulesGet rules ext = some rule ∧
    ruleToNinja ev rule flat = .ok nr ∧
    rule.out = some out ∧
    obj = objectPath st builder appName rule nr (depsHashOf combined) out srcpath ∧
    nr.render ∈ entries ∧
    (buildFromRule nr (some [srcpath]) [obj] combined).render ∈ entries

/-! In the three lemmas below `es` is any list that contains the entries of the state reached: `c03` takes the entry list of the
    whole build. -/

theorem defaultBuildStep_objs {sources combined localDeps srcTagfile} {ls ls' : LoopState} {es : List String}
    (h : defaultBuildStep ev st builder appName rules flat srcdir sources combined localDeps
          srcTagfile ls = .ok ls') (hes : ls'.entries ⊆ es) :
    ∃ l, ls'.objects = ls.objects ++ l ∧
      Forall₂ (SourceObj ev st builder appName rules flat srcdir combined es) sources l := by
  obtain ⟨ens, res, hens, hres, rfl⟩ := defaultBuildStep_ok h
  -- what the step adds: the rule blocks of its sources, then their statements
  have hadd : ∀ x ∈ ens.map (·.2.render) ++ res.flatMap (·.2), x ∈ es := fun x hx => hes (mem_addEntries.2 (.inr hx))
  have hmr := mrulesOK_of_mapM hens fun en hen => hadd _ (List.mem_append_left _ (List.mem_map_of_mem hen))
  refine ⟨_, rfl, .map_right _ ((forall₂_of_mapM_ok hres).imp_of_mem fun s _ p hp hsp => ?_)⟩
  obtain ⟨srcpath, ext, rule, nr, out, h1, h2, h3, h4, h5, h6, h7⟩ := compileSource_ok hsp
  obtain ⟨rule', hr', hnr, hrender⟩ := hmr.lookup h4
  cases h3.symm.trans hr'
  exact ⟨srcpath, ext, rule, nr, out, h1, h2, h3, hnr, h5, h6, hrender,
    hadd _ (List.mem_append_right _ (List.mem_flatMap.2 ⟨p, hp, by rw [h7]; exact List.mem_cons_self⟩))⟩

/-- the objects a module with source directory `srcdir` and env `flat` appends -/
def BuildObjs (ev : EvalExpr) (st : Settings) (builder appName : Name) (r : Resolved)
    (rules : List (String × Rule)) (m : Module) (srcdir : String) (flat : Flat)
    (entries : List String) (l : List String) : Prop :=
  (m.build.isSome = true ∧ l = []) ∨
  (m.build = none ∧ ∃ combined,
    Forall₂ (SourceObj ev st builder appName rules flat srcdir combined entries) (effSources r m) l)

/-- the objects one module of the build order appends: none for a context module (no source
    directory) or a custom-build module, else one per effective source, in order -/
def ModuleObjs (ev : EvalExpr) (st : Settings) (builder appName : Name) (r : Resolved)
    (rules : List (String × Rule)) (opts : Option VarOpts) (m : Module) (menv : Env)
    (entries : List String) (l : List String) : Prop :=
  (m.srcdir = none ∧ l = []) ∨
  (∃ srcdir flat, m.srcdir = some srcdir ∧ moduleFlat opts menv = .ok flat ∧
    BuildObjs ev st builder appName r rules m srcdir flat entries l)

theorem moduleStep_objs {app : Module} {r : Resolved} {opts} {globals : List Name} {m : Module} {menv bdeps}
    {ls : LoopState} {lf : LoopState × Option (Name × Flat)} {es : List String}
    (h : moduleStep ev st builder app r rules opts globals m menv bdeps ls = .ok lf) (hes : lf.1.entries ⊆ es) :
    ∃ l, lf.1.objects = ls.objects ++ l ∧
      ModuleObjs ev st builder app.name r rules opts m menv es l := by
  rcases moduleStep_ok h with ⟨hsd, rfl⟩ | ⟨sd, fl, hsd, hfl, hst, _⟩
  · exact ⟨[], (List.append_nil _).symm, .inl ⟨hsd, rfl⟩⟩
  obtain ⟨lt, imported, hlt, _, hbs⟩ := moduleStmts_ok hst
  -- neither the download step nor the registration of the module's own files touches the objects
  have hobj : (registerLocalDeps m lt.1).objects = ls.objects :=
    (registerLocalDeps_objects m lt.1).trans (downloadStep_files hlt).2
  cases hb : m.build with
  | some cb =>
    rw [buildStep_custom hb] at hbs
    obtain ⟨_, _, _, _, _, _, _, _, he⟩ := customBuildStep_ok hbs
    exact ⟨[], by rw [he, List.append_nil]; exact hobj, .inr ⟨sd, fl, hsd, hfl, .inl ⟨by rw [hb]; rfl, rfl⟩⟩⟩
  | none =>
    rw [buildStep_default hb] at hbs
    obtain ⟨l, h1, h2⟩ := defaultBuildStep_objs hbs hes
    exact ⟨l, hobj ▸ h1, .inr ⟨sd, fl, hsd, hfl, .inr ⟨hb, _, h2⟩⟩⟩

theorem moduleStep_context_objects {app : Module} {r : Resolved} {opts} {globals : List Name} {m : Module}
    {menv bdeps} {ls : LoopState} {lf : LoopState × Option (Name × Flat)}
    (hm : m.srcdir = none)
    (h : moduleStep ev st builder app r rules opts globals m menv bdeps ls = .ok lf) :
    lf.1.objects = ls.objects := by
  obtain ⟨l, h2, h3⟩ := moduleStep_objs h (List.Subset.refl _)
  rcases h3 with ⟨_, hl⟩ | ⟨sd, _, hsd, _⟩
  · rw [h2, hl, List.append_nil]
  · rw [hm] at hsd; cases hsd

theorem moduleStep_custom_objects {app : Module} {r : Resolved} {opts} {globals : List Name} {m : Module}
    {menv bdeps} {ls : LoopState} {lf : LoopState × Option (Name × Flat)} {cb : CustomBuild}
    (hm : m.build = some cb)
    (h : moduleStep ev st builder app r rules opts globals m menv bdeps ls = .ok lf) :
    lf.1.objects = ls.objects := by
  obtain ⟨l, h2, h3⟩ := moduleStep_objs h (List.Subset.refl _)
  rcases h3 with ⟨_, hl⟩ | ⟨sd, _, _, _, ⟨_, hl⟩ | ⟨hb, _⟩⟩
  · rw [h2, hl, List.append_nil]
  · rw [h2, hl, List.append_nil]
  · rw [hm] at hb; cases hb

/-- a default-build module adds exactly one object per effective source, in order -/
theorem moduleStep_default_objects {app : Module} {r : Resolved} {opts} {globals : List Name} {m : Module}
    {menv bdeps} {ls : LoopState} {lf : LoopState × Option (Name × Flat)} {sd : String}
    (hsd : m.srcdir = some sd) (hb : m.build = none)
    (h : moduleStep ev st builder app r rules opts globals m menv bdeps ls = .ok lf) :
    ∃ fl combined l, moduleFlat opts menv = .ok fl ∧ lf.1.objects = ls.objects ++ l ∧
      l.length = (effSources r m).length ∧
      Forall₂ (SourceObj ev st builder app.name rules fl sd combined lf.1.entries) (effSources r m) l := by
  obtain ⟨l, h2, h3⟩ := moduleStep_objs h (List.Subset.refl _)
  rcases h3 with ⟨hn, _⟩ | ⟨sd', fl, hsd', hfl, ⟨hs, _⟩ | ⟨_, combined, hf⟩⟩
  · rw [hsd] at hn; cases hn
  · rw [hb] at hs; cases hs
  · rw [hsd] at hsd'
    cases hsd'
    exact ⟨fl, combined, l, hfl, h2, hf.length_eq.symm, hf⟩

theorem modulesLoop_objs {app : Module} {r : Resolved} {opts} {globals : List Name} {menvs : List ModEnv}
    {order : List Name} {ls : LoopState} {mflats : List (Name × Flat)} {lm : LoopState × List (Name × Flat)}
    {es : List String}
    (h : modulesLoop ev st builder app r rules opts globals menvs order ls mflats = .ok lm) (hes : lm.1.entries ⊆ es) :
    ∃ ll : List (List String), lm.1.objects = ls.objects ++ ll.flatten ∧
      Forall₂ (fun n l => ∃ me, me ∈ menvs ∧ me.1.name = n ∧ menvs.find? (·.1.name == n) = some me ∧
        ModuleObjs ev st builder app.name r rules opts me.1 me.2.1 es l) order ll := by
  induction order generalizing ls mflats with
  | nil => cases h; exact ⟨[], by simp, .nil⟩
  | cons n ns ih =>
    obtain ⟨me, lf, hme, hlf, h⟩ := modulesLoop_cons_ok h
    obtain ⟨l, h2, h3⟩ := moduleStep_objs hlf fun x hx => hes ((modulesLoop_le h).subset hx)
    obtain ⟨ll, i2, i3⟩ := ih h
    exact ⟨l :: ll, by rw [i2, h2, List.flatten_cons, List.append_assoc],
      .cons ⟨me, List.mem_of_find?_eq_some hme, C09.find?_key (key := fun me : ModEnv => me.1.name) hme, hme, h3⟩ i3⟩

end Lift

/-! ## the link statement -/

section Link
variable {ev : EvalExpr} {st : Settings} {b : Bag} {builder : Name} {app : Module}

/-- the link statement of a build: rule `linkRule`, inputs exactly `objects`, output `outfile` -/
def linkStmt (linkRule : NinjaRule) (objects : List String) (outfile : String)
    (globals : List Name) (files : FileTable) : NinjaBuild :=
  buildFromRule linkRule (some objects) [outfile] (globalDepFiles globals files)

theorem linkStmt_inputs (linkRule objects outfile globals files) :
    (linkStmt linkRule objects outfile globals files).inputs = some objects ∧
    (linkStmt linkRule objects outfile globals files).outs = [outfile] ∧
    (linkStmt linkRule objects outfile globals files).rule = linkRule.name := ⟨rfl, rfl, rfl⟩

/-- the link statement consumes exactly `ls.objects` -/
theorem linkStep_ok {rules : List (String × Rule)} {gflat : Flat} {globals : List Name} {outfile : String}
    {ls : LoopState} {entries : List String}
    (h : linkStep ev rules gflat globals outfile ls = .ok entries) :
    ∃ lr linkRule, rulesByName rules "LINK" = some lr ∧ ruleToNinja ev lr gflat = .ok linkRule ∧
      entries = addEntries ls.entries
        [linkRule.render, (linkStmt linkRule ls.objects outfile globals ls.files).render] ∧
      linkRule.render ∈ entries ∧
      (buildFromRule linkRule (some ls.objects) [outfile] (globalDepFiles globals ls.files)).render ∈ entries ∧
      ls.entries ⊆ entries := by
  obtain ⟨lr, linkRule, hlr, hlink, rfl⟩ := Laze.linkStep_ok h
  exact ⟨lr, linkRule, hlr, hlink, rfl, mem_addEntries.2 (.inr List.mem_cons_self),
    mem_addEntries.2 (.inr (List.mem_cons_of_mem _ List.mem_cons_self)), (prefix_addEntries _ _).subset⟩

/-- the output file of a build whose `${outfile}` evaluates to `outfile` -/
def finalOut (rules : List (String × Rule)) (outfile : String) : String :=
  match rulesByName rules "POST_LINK" with
  | none => outfile
  | some pr => pathWithExtension outfile (pr.out.getD "")

theorem postLinkStep_out {rules : List (String × Rule)} {gflat : Flat} {outfile : String}
    {entries : List String} {eo : List String × String}
    (h : postLinkStep ev rules gflat outfile entries = .ok eo) : eo.2 = finalOut rules outfile := by
  unfold finalOut
  rcases postLinkStep_ok h with ⟨hn, rfl⟩ | ⟨pr, ext, pl, hpr, hext, _, rfl⟩
  · rw [hn]
  · rw [hpr]; simp only [hext, Option.getD_some]

end Link

/-! ## the nearest rule -/

/-- the key under which `collect_rules` files a rule: its input extension, else its name -/
def ruleKey (r : Rule) : String := r.in_.getD r.name

/-- the LAST rule of a list with key `k` -/
def lastWithKey (rs : List Rule) (k : String) : Option Rule := rs.reverse.find? (fun r => ruleKey r == k)

/-- the rule for key `k` is the one of the NEAREST context on the builder's chain that has a
    rule with that key, and within that context the LAST such rule -/
theorem rule_nearest (b : Bag) (c : Name) (k : String) :
    rulesGet (b.collectRules c) k =
      (b.chainCtx c).findSome? (fun x => lastWithKey (x.rules.getD []) k) := by
  -- all rules of the chain, those of the root context first, are inserted one after the other: the last one with
  -- key `k` counts
  have h : b.collectRules c = ((b.chainCtx c).reverse.flatMap (·.rules.getD [])).foldl
      (fun acc r => C09.upsert acc (ruleKey r) fun _ => id r) [] := List.foldl_flatMap.symm
  rw [h]
  refine (C09.lk_foldl_insert ruleKey id _ [] k).trans ?_
  rw [List.reverse_flatMap, List.reverse_reverse, List.find?_flatMap, Option.map_id, C09.lk_nil, Option.or_none]
  rfl

theorem rule_nearest_key {b : Bag} {c : Name} {k : String} {r : Rule}
    (h : rulesGet (b.collectRules c) k = some r) : ruleKey r = k ∧
      ∃ x ∈ b.chainCtx c, r ∈ x.rules.getD [] := by
  rw [rule_nearest] at h
  obtain ⟨x, hx, hl⟩ := List.exists_of_findSome?_eq_some h
  exact ⟨C09.find?_key (key := ruleKey) hl, x, hx, List.mem_reverse.1 (List.mem_of_find?_eq_some hl)⟩

/-! ## the build order contains every selected module exactly once -/

/-- C03 (coverage): when there is a build order, it has no duplicates and contains the name of
    EVERY module; in particular no module is named like one of the two internal nodes (`""`,
    `_global_build_deps`) — such a module makes the graph cyclic and there is no build -/
theorem buildOrder_ok {mods : List (Module × Option (List Name))} {order : List Name}
    (h : buildOrder mods = some order) :
    order.Nodup ∧ ∀ mb ∈ mods, isRealNode mb.1.name = true ∧ mb.1.name ∈ order := by
  obtain ⟨hnd, hmem⟩ := C19.buildOrder_nodup_mem h
  exact ⟨hnd, fun mb hmb => ⟨C19.buildOrder_real h hmb,
    (hmem _).2 ⟨C19.buildOrder_real h hmb, .inl (List.mem_map_of_mem hmb)⟩⟩⟩

/-! ## the whole property -/

/-- C03 for one configured build with selection `r`: there are the flattened global env `gflat`, the
    value `outfile` of `${outfile}` in it, the module envs (one per selected module, in selection
    order), the build order and the final loop state `ls` such that
    * the link statement — rule LINK converted in the global env, inputs EXACTLY `ls.objects`,
      output `outfile` — is among the build's statements;
    * `ls.objects` is the concatenation, over the build order, of one block per module: empty for a
      context module or a custom-build module, else one object per effective source (`effSources`:
      the sources and the optional sources whose guard is selected), in order, each produced by a
      compile statement (also among the statements) from that source with the rule the builder's
      rule table has for the source's extension (`rule_nearest`: the nearest context's);
    * the build order has no duplicates and contains the name of EVERY selected module, and every
      name in it is the name of a selected module (`me ∈ menvs`, `menvs.map (·.1) = r.modules`);
    * the build's output is `outfile`, or `outfile` with the POST_LINK rule's `out` extension. -/
def C03Spec (ev : EvalExpr) (st : Settings) (b : Bag) (builder : Name) (app : Module) (cli : Cli)
    (r : Resolved) (i : BuildInfo) : Prop :=
  ∃ (gflat : Flat) (outfile : String) (menvs : List ModEnv) (order : List Name) (ls : LoopState)
    (lr : Rule) (linkRule : NinjaRule) (ll : List (List String)),
    globalFlat (builderVarOpts b builder) (globalEnv st b builder app r cli) = .ok gflat ∧
    expandS gflat .empty "${outfile}" = .ok outfile ∧
    menvs.map (·.1) = r.modules ∧
    buildOrder (menvs.map ModEnv.deps) = some order ∧
    order.Nodup ∧
    (∀ m ∈ r.modules, m.name ∈ order) ∧
    rulesByName (b.collectRules builder) "LINK" = some lr ∧
    ruleToNinja ev lr gflat = .ok linkRule ∧
    (buildFromRule linkRule (some ls.objects) [outfile]
      (globalDepFiles (globalBuildDeps r) ls.files)).render ∈ i.entries ∧
    ls.objects = ll.flatten ∧
    Forall₂ (fun n l => ∃ me, me ∈ menvs ∧ me.1.name = n ∧
      menvs.find? (·.1.name == n) = some me ∧
      ModuleObjs ev st builder app.name r (b.collectRules builder) (builderVarOpts b builder)
        me.1 me.2.1 i.entries l) order ll ∧
    i.out = finalOut (b.collectRules builder) outfile

theorem c03 {ev : EvalExpr} {st : Settings} {b : Bag} {builder : Name} {app : Module} {cli : Cli}
    {i : BuildInfo} (h : configureBuild ev st b builder app cli = .ok (.build i)) :
    ∃ rs, resolveTop b builder app cli = .ok rs ∧
      C03Spec ev st b builder app cli (resolvedOf b builder (appClone app builder cli) rs) i := by
  obtain ⟨rs, hrs, c, rfl⟩ := configureBuild_build h
  obtain ⟨lr, linkRule, f3, f4, _, _, f5, f6⟩ := linkStep_ok c.link
  obtain ⟨l, hl⟩ := postLinkStep_adds c.postLink
  have hsub : c.entries1 ⊆ c.eo.1 := hl ▸ (prefix_addEntries _ _).subset
  obtain ⟨ll, m2, m3⟩ := modulesLoop_objs c.loop fun x hx => hsub (f6 hx)
  obtain ⟨o1, o2⟩ := buildOrder_ok c.ordered
  have hfst := (moduleEnvs_ok c.envs).1
  refine ⟨rs, hrs, c.gflat, c.outfile, c.menvs, c.order, c.ls, lr, linkRule, ll, c.flat, c.out, hfst, c.ordered,
    o1, ?_, f3, f4, hsub f5, ?_, m3, postLinkStep_out c.postLink⟩
  · intro m hm
    rw [← hfst] at hm
    obtain ⟨me, hme, rfl⟩ := List.mem_map.1 hm
    exact (o2 (ModEnv.deps me) (List.mem_map.2 ⟨me, hme, rfl⟩)).2
  · rw [m2]; rfl

/-- `linkStep_ok` through `configureBuild`: the link statement is among the build's entries -/
theorem configureBuild_link {ev : EvalExpr} {st : Settings} {b : Bag} {builder : Name} {app : Module}
    {cli : Cli} {i : BuildInfo} (h : configureBuild ev st b builder app cli = .ok (.build i)) :
    ∃ (ls : LoopState) (lr : Rule) (linkRule : NinjaRule) (gflat : Flat) (outfile : String)
      (globals : List Name),
      rulesByName (b.collectRules builder) "LINK" = some lr ∧ ruleToNinja ev lr gflat = .ok linkRule ∧
      (buildFromRule linkRule (some ls.objects) [outfile] (globalDepFiles globals ls.files)).render
        ∈ i.entries := by
  obtain ⟨rs, _, gflat, outfile, _, _, ls, lr, linkRule, _, _, _, _, _, _, _, h5, h6, h7, _⟩ := c03 h
  exact ⟨ls, lr, linkRule, gflat, outfile, _, h5, h6, h7⟩

theorem configureBuild_out {ev : EvalExpr} {st : Settings} {b : Bag} {builder : Name} {app : Module}
    {cli : Cli} {i : BuildInfo} (h : configureBuild ev st b builder app cli = .ok (.build i)) :
    ∃ rs gflat outfile,
      resolveTop b builder app cli = .ok rs ∧
      globalFlat (builderVarOpts b builder)
        (globalEnv st b builder app (resolvedOf b builder (appClone app builder cli) rs) cli) = .ok gflat ∧
      expandS gflat .empty "${outfile}" = .ok outfile ∧
      i.globalFlat = gflat ∧
      ((rulesByName (b.collectRules builder) "POST_LINK" = none ∧ i.out = outfile) ∨
       (∃ pr ext, rulesByName (b.collectRules builder) "POST_LINK" = some pr ∧ pr.out = some ext ∧
          i.out = pathWithExtension outfile ext)) := by
  obtain ⟨rs, hrs, c, rfl⟩ := configureBuild_build h
  refine ⟨rs, c.gflat, c.outfile, hrs, c.flat, c.out, rfl, ?_⟩
  rcases postLinkStep_ok c.postLink with ⟨hn, e⟩ | ⟨pr, ext, _, hpr, hext, _, e⟩
  · exact .inl ⟨hn, congrArg Prod.snd e⟩
  · exact .inr ⟨pr, ext, hpr, hext, congrArg Prod.snd e⟩

/-- with unique names (a property of the resolver's selection), the module of a name is unique:
    the block of objects of a name in the build order is that of THE selected module of that name -/
theorem module_unique {ms : List Module} (hn : (ms.map (·.name)).Nodup) {m m' : Module}
    (hm : m ∈ ms) (hm' : m' ∈ ms) (h : m.name = m'.name) : m = m' := eq_of_nodup_map hn hm hm' h

/-! ## examples: the hypotheses of the theorems are satisfiable

  `pathExtension` is built on `String.splitOn`, which the kernel cannot evaluate, so the examples
  that compile a source take the two facts `pathExtension "main.c" = some "c"` and
  `pathExtension "app/main.c" = some "c"` (both confirmed by `#eval`) as hypotheses; everything else
  is evaluated by the kernel (`decide +kernel`, no extra axioms). -/
section Example

def ev0 : EvalExpr := fun b => .ok b
def cRule : Rule := { name := "CC", cmd := "cc -c ${in} -o ${out}", in_ := some "c", out := some "o" }
def cRuleHost : Rule := { name := "HOSTCC", cmd := "gcc -c ${in} -o ${out}", in_ := some "c", out := some "o" }
def ldRule : Rule := { name := "LINK", cmd := "ld ${in} -o ${out}", in_ := some "o", out := some "elf" }
def exRules : List (String × Rule) := [("c", cRule), ("o", ldRule)]
def exNr : NinjaRule := mkNinjaRule cRule "" "cc -c ${in} -o ${out}" none

example : addEntries ["a"] ["a", "b"] = ["a", "b"] := by decide +kernel

theorem ex_ruleToNinja : ruleToNinja ev0 cRule [] = .ok exNr := by decide +kernel

theorem ex_rulesGet : rulesGet exRules "c" = some cRule := by decide +kernel

theorem ex_ruleForSource (h1 : pathExtension "main.c" = some "c") :
    ruleForSource ev0 exRules [] "main.c" = .ok ("c", exNr) :=
  ruleForSource_eq h1 ex_rulesGet ex_ruleToNinja

/-- hypotheses of `compileSource_ok` / `compileSource_head` -/
theorem ex_compileSource (hx : pathExtension "app/main.c" = some "c") :
    compileSource ev0 {} "host" "app" exRules [("c", exNr)] [] "app" none none none "main.c" =
      .ok (objectPath {} "host" "app" cRule exNr none "o" "app/main.c",
           [(buildFromRule exNr (some ["app/main.c"])
              [objectPath {} "host" "app" cRule exNr none "o" "app/main.c"] none).render]) := by
  have h1 : expandSrcPath ev0 [] "app" "main.c" = .ok "app/main.c" := by decide +kernel
  exact compileSource_eq h1 hx ex_rulesGet rfl rfl

/-- hypotheses of `compileSourcesLoop_ok` -/
example (hx : pathExtension "app/main.c" = some "c") :
    ∃ eo, compileSourcesLoop ev0 {} "host" "app" exRules [("c", exNr)] [] "app" none none none
      ["main.c"] [] [] = .ok eo := by
  rw [compileSourcesLoop_eq, List.mapM_cons, ex_compileSource hx]
  exact ⟨_, rfl⟩

/-- hypotheses of `defaultBuildStep_ok` -/
example (h1 : pathExtension "main.c" = some "c") (h2 : pathExtension "app/main.c" = some "c") :
    ∃ ls', defaultBuildStep ev0 {} "host" "app" exRules [] "app" ["main.c"] none none none {} = .ok ls' := by
  apply Exists.intro
  unfold defaultBuildStep
  have hm : moduleRulesLoop ev0 exRules [] ["main.c"] ({} : LoopState).entries [] =
      .ok (addEntry [] exNr.render, [("c", exNr)]) := by
    unfold moduleRulesLoop
    rw [ex_ruleForSource h1]
    rfl
  rw [hm]
  dsimp only
  unfold compileSourcesLoop
  rw [ex_compileSource h2]
  dsimp only
  unfold compileSourcesLoop
  rfl

/-- hypotheses of `linkStep_ok` -/
example : (linkStep ev0 exRules [] [] "app.elf" { objects := ["a.o", "b.o"] }).isOk = true := by
  decide +kernel

/-- `rule_nearest`: the builder's own rule for `.c` shadows the inherited one -/
def hostBag : Bag := ⟨[{ name := "default", parent := none, rules := some [cRule, ldRule] },
  { name := "host", parent := some "default", rules := some [cRuleHost], isBuilder := true }]⟩

example : rulesGet (hostBag.collectRules "host") "c" = some cRuleHost := by decide +kernel
example : rulesGet (hostBag.collectRules "default") "c" = some cRule := by decide +kernel
example : (hostBag.chainCtx "host").findSome? (fun x => lastWithKey (x.rules.getD []) "c") = some cRuleHost := by
  decide +kernel

/-- hypotheses of `c03`, `configureBuild_link`, `configureBuild_out`: a whole configured build (an
    app without sources — compiling a source needs `pathExtension`, see above) -/
def ctxM (n : String) : Module := { name := "context::" ++ n, contextName := n }
def exApp : Module := { name := "app", contextName := "default", srcdir := some "app", relpath := "app", isBinary := true }
def exBag : Bag := ⟨[{ name := "default", parent := none, modules := [ctxM "default", exApp], rules := some [cRule, ldRule] },
  { name := "host", parent := some "default", modules := [ctxM "host"], isBuilder := true }]⟩

def isBuild : Except GErr Outcome → Bool
  | .ok (.build _) => true
  | _ => false

theorem exists_of_isBuild {x : Except GErr Outcome} (h : isBuild x = true) : ∃ i, x = .ok (.build i) := by
  unfold isBuild at h
  split at h
  · exact ⟨_, rfl⟩
  · cases h

theorem ex_build : ∃ i, configureBuild ev0 {} exBag "host" exApp {} = .ok (.build i) :=
  exists_of_isBuild (by decide +kernel)

example : ∃ i rs, resolveTop exBag "host" exApp {} = .ok rs ∧
    C03Spec ev0 {} exBag "host" exApp {} (resolvedOf exBag "host" (appClone exApp "host" {}) rs) i := by
  obtain ⟨i, hi⟩ := ex_build
  obtain ⟨rs, h⟩ := c03 hi
  exact ⟨i, rs, h⟩

/-- FINDING (consequence of `buildOrder_ok`, not a violation of C03): a module that happens to be
    named like the internal graph node `_global_build_deps` (or `""`) makes the build-order graph
    cyclic, so the app is reported as having a "build dependency cycle" and is not built at all,
    although no module depends on itself. `generate.rs` uses the same two reserved node names. -/
def gM : Module := { name := "_global_build_deps", contextName := "default", srcdir := some "g", relpath := "g" }
def exApp2 : Module := { exApp with selects := [.hard "_global_build_deps"] }
def exBag2 : Bag := ⟨[{ name := "default", parent := none, modules := [ctxM "default", gM, exApp2], rules := some [cRule, ldRule] },
  { name := "host", parent := some "default", modules := [ctxM "host"], isBuilder := true }]⟩

example : (match configureBuild ev0 {} exBag2 "host" exApp2 {} with
           | .ok (.noBuild .depCycle) => true
           | _ => false) = true := by decide +kernel

end Example

end Laze.C03
