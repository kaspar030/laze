import LazeModel.Model.Select
/-! C10, partitions: the shards `count:1/N .. count:N/N` (a running counter over the selected tuples) and `hash:1/N .. hash:N/N`
    are disjoint and together give every tuple back. -/
namespace Laze.C10
open Laze

/-- the running counter of `count:k/N`, started at `c`, is `c` plus the index modulo `N` -/
theorem countPartition_eq (k N : Nat) (l : List α) (c j : Nat) :
    countPartition k N l ((c + j) % N) = ((l.zipIdx j).filter (fun p => (c + p.2) % N == k - 1)).map (·.1) := by
  induction l generalizing j with
  | nil => rfl
  | cons x xs ih =>
    unfold countPartition
    dsimp only
    rw [Nat.mod_add_mod, Nat.add_assoc, ih (j + 1), List.zipIdx_cons, List.filter_cons]
    by_cases h : ((c + j) % N == k - 1) = true
    · rw [if_pos h, if_pos h]; rfl
    · rw [if_neg h, if_neg h]

/-- no constraint on `k` is needed; `c < N` is -/
theorem countPartition_spec (k N : Nat) (l : List α) (c : Nat) (hc : c < N) :
    countPartition k N l c
      = (l.zipIdx.filter (fun (p : α × Nat) => (c + p.2) % N == k - 1)).map (·.1) := by
  have h := countPartition_eq k N l c 0
  rwa [Nat.add_zero, Nat.mod_eq_of_lt hc] at h

theorem countPartition_sublist (k N : Nat) (l : List α) : ∀ c, (countPartition k N l c).Sublist l := by
  induction l with
  | nil => intro c; exact List.Sublist.slnil
  | cons x xs ih =>
    intro c
    unfold countPartition
    dsimp only
    split
    · exact (ih _).cons_cons x
    · exact (ih _).cons x

theorem flatMap_filter_key_perm (f : α → Nat) (l : List α) (N : Nat) :
    ((List.range N).flatMap (fun k => l.filter (fun x => f x == k))).Perm (l.filter (fun x => decide (f x < N))) := by
  induction N with
  | zero => rw [List.filter_eq_nil_iff.2 fun a _ => by simp]; exact .refl _
  | succ N ih =>
    -- the keys below `N + 1` are those below `N` and the key `N`
    have hp := List.filter_append_perm (fun x => decide (f x < N)) (l.filter (fun x => decide (f x < N + 1)))
    rw [List.filter_filter, List.filter_filter] at hp
    rw [List.range_succ, List.flatMap_append, List.flatMap_singleton]
    refine (ih.append_right _).trans (.trans (.of_eq ?_) hp)
    congr 1 <;> refine List.filter_congr fun x _ => Bool.eq_iff_iff.2 ?_
    · simp only [Bool.and_eq_true, decide_eq_true_eq]; omega
    · simp only [Bool.and_eq_true, Bool.not_eq_true', decide_eq_true_eq, decide_eq_false_iff_not, beq_iff_eq]; omega

theorem flatMap_filter_key_perm' (f : α → Nat) (l : List α) (N : Nat) (hf : ∀ x ∈ l, f x < N) :
    ((List.range N).flatMap (fun k => l.filter (fun x => f x == k))).Perm l :=
  (flatMap_filter_key_perm f l N).trans (.of_eq (List.filter_eq_self.2 fun a ha => decide_eq_true (hf a ha)))

/-- the shards `count:1/N … count:N/N` together contain every element of `l` exactly once -/
theorem count_partition_cover (N : Nat) (hN : 1 ≤ N) (l : List α) :
    ((List.range N).flatMap (fun k => countPartition (k + 1) N l 0)).Perm l := by
  have hfun : (fun k => countPartition (k + 1) N l 0)
      = fun k => (l.zipIdx.filter (fun (p : α × Nat) => p.2 % N == k)).map (·.1) := by
    funext k
    rw [countPartition_spec (k + 1) N l 0 hN]
    simp only [Nat.zero_add, Nat.add_sub_cancel]
  rw [hfun, ← List.map_flatMap]
  have hp := flatMap_filter_key_perm' (fun (p : α × Nat) => p.2 % N) l.zipIdx N
    (fun _ _ => Nat.mod_lt _ hN)
  have := hp.map (·.1)
  rwa [List.zipIdx_map_fst] at this

/-- the arithmetic behind `count_partition_index_disjoint`: `c` is the value the counter starts from, `i` the index of a build, so
    `(c + i) % N` is its slot; it is the slot of at most one shard `k` (shards are numbered from 1) -/
theorem count_partition_disjoint (N k₁ k₂ c i : Nat) (h₁ : 1 ≤ k₁) (h₂ : 1 ≤ k₂)
    (a₁ : ((c + i) % N == k₁ - 1) = true) (a₂ : ((c + i) % N == k₂ - 1) = true) : k₁ = k₂ := by
  have e₁ := eq_of_beq a₁
  have e₂ := eq_of_beq a₂
  omega

theorem shard_unique (N : Nat) (hN : 1 ≤ N) (v : Nat) :
    ∃ k, 1 ≤ k ∧ k ≤ N ∧ (v % N == k - 1) = true ∧ ∀ k', 1 ≤ k' → (v % N == k' - 1) = true → k' = k := by
  refine ⟨v % N + 1, by omega, Nat.succ_le_of_lt (Nat.mod_lt _ hN), by simp, ?_⟩
  intro k' hk' h
  have := eq_of_beq h
  omega

/-- an index is kept by exactly one shard in `1..N` -/
theorem count_partition_unique (N : Nat) (hN : 1 ≤ N) (c i : Nat) :
    ∃ k, 1 ≤ k ∧ k ≤ N ∧ ((c + i) % N == k - 1) = true ∧
      ∀ k', 1 ≤ k' → ((c + i) % N == k' - 1) = true → k' = k :=
  shard_unique N hN (c + i)

/-- the shards as index sets: two different shards share no index of `l` -/
theorem count_partition_index_disjoint (N k₁ k₂ c : Nat) (l : List α) (h₁ : 1 ≤ k₁) (h₂ : 1 ≤ k₂)
    (hne : k₁ ≠ k₂) (p : α × Nat)
    (m₁ : p ∈ l.zipIdx.filter (fun (p : α × Nat) => (c + p.2) % N == k₁ - 1))
    (m₂ : p ∈ l.zipIdx.filter (fun (p : α × Nat) => (c + p.2) % N == k₂ - 1)) : False := by
  rw [List.mem_filter] at m₁ m₂
  exact hne (count_partition_disjoint N k₁ k₂ c p.2 h₁ h₂ m₁.2 m₂.2)

/-- for any hash function the shards `hash:1/N … hash:N/N` together contain every element exactly once -/
theorem hash_partition_cover (h : α → Nat) (N : Nat) (hN : 1 ≤ N) (l : List α) :
    ((List.range N).flatMap (fun k => l.filter (fun x => h x % N == (k + 1) - 1))).Perm l := by
  simp only [Nat.add_sub_cancel]
  exact flatMap_filter_key_perm' (fun x => h x % N) l N (fun _ _ => Nat.mod_lt _ hN)

/-- every element satisfies the filter of exactly one `k ∈ 1..N` -/
theorem hash_partition_unique (h : α → Nat) (N : Nat) (hN : 1 ≤ N) (x : α) :
    ∃ k, 1 ≤ k ∧ k ≤ N ∧ (h x % N == k - 1) = true ∧
      ∀ k', 1 ≤ k' → (h x % N == k' - 1) = true → k' = k :=
  shard_unique N hN (h x)

/-- both partition kinds, at the level of `applyPartition`: the shards `1..N` re-assemble
    (as a multiset) the unpartitioned tuple list -/
theorem applyPartition_count_cover (hf : String → Nat) (N : Nat) (hN : 1 ≤ N)
    (tuples : List (Context × Module)) :
    ((List.range N).flatMap (fun k => applyPartition hf (some (.count (k + 1) N)) tuples)).Perm tuples :=
  count_partition_cover N hN tuples

theorem applyPartition_hash_cover (hf : String → Nat) (N : Nat) (hN : 1 ≤ N)
    (tuples : List (Context × Module)) :
    ((List.range N).flatMap (fun k => applyPartition hf (some (.hash (k + 1) N)) tuples)).Perm tuples :=
  hash_partition_cover (fun (p : Context × Module) => hf (p.1.name ++ p.2.name)) N hN tuples

/-- shards `f 1 … f N` that together are a permutation of `l` leave no element of `l` out -/
theorem mem_shard_of_cover {f : Nat → List α} {N : Nat} {l : List α}
    (h : ((List.range N).flatMap fun k => f (k + 1)).Perm l) {p : α} (hp : p ∈ l) :
    ∃ k, 1 ≤ k ∧ k ≤ N ∧ p ∈ f k := by
  obtain ⟨k, hk, hm⟩ := List.mem_flatMap.mp (h.mem_iff.mpr hp)
  exact ⟨k + 1, Nat.le_add_left 1 k, Nat.succ_le_of_lt (List.mem_range.mp hk), hm⟩

theorem applyPartition_sublist (hf : String → Nat) (p : Option Partition)
    (tuples : List (Context × Module)) : (applyPartition hf p tuples).Sublist tuples := by
  unfold applyPartition
  split
  · exact List.Sublist.refl _
  · exact countPartition_sublist _ _ _ _
  · exact List.filter_sublist

/-! ### non-vacuity: the three shards of a 7-element list -/
example : countPartition 1 3 [10, 11, 12, 13, 14, 15, 16] 0 = [10, 13, 16] := by decide +kernel
example : countPartition 2 3 [10, 11, 12, 13, 14, 15, 16] 0 = [11, 14] := by decide +kernel
example : countPartition 3 3 [10, 11, 12, 13, 14, 15, 16] 0 = [12, 15] := by decide +kernel
example : (List.range 3).flatMap (fun k => countPartition (k + 1) 3 [10, 11, 12, 13, 14, 15, 16] 0)
    = [10, 13, 16, 11, 14, 12, 15] := by decide +kernel
example : ([10, 11, 12, 13, 14, 15, 16].zipIdx.filter (fun (p : Nat × Nat) => (0 + p.2) % 3 == 2 - 1)).map (·.1)
    = [11, 14] := by decide +kernel

end Laze.C10
