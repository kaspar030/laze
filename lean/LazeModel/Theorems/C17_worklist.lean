import LazeModel.Model.Loader
import LazeModel.Lemmas.List
/-! C17, the lazefile work-list: a lazefile is read once, whoever lists it, and the loop over the list ends. -/
namespace Laze.C17
open Laze

/-! The work-list is an insertion-ordered SET of `FileInclude = (filename, index of the including
document)`, keyed by the FILE NAME (its normalised components, `pathComponents`): a lazefile that
is listed under `subdirs:`/`includes:` by several documents — or by itself — is put on the
work-list, and read, ONCE (`load_work_list`; the runs on `WorkList.fs` and `WorkList.selfInc` below); the entry
keeps the index of the FIRST document that listed it. -/

/-- the identity of a work-list entry: the normalised components of its file name -/
def fkey (i : FileInclude) : List String := pathComponents i.filename

/-- no two entries of the work-list name the same file -/
def DistinctFiles (incs : List FileInclude) : Prop :=
  incs.Pairwise (fun a b => pathComponents a.filename ≠ pathComponents b.filename)

/-- entries for different files are different entries -/
theorem DistinctFiles.nodup {incs : List FileInclude} (h : DistinctFiles incs) : incs.Nodup := by
  unfold DistinctFiles at h
  unfold List.Nodup
  exact h.imp (fun hab e => hab (by rw [e]))

/-- `BEq` on includes is equality of the normalised file names (the includer is ignored) -/
theorem fi_beq (a b : FileInclude) :
    (a == b) = decide (pathComponents a.filename = pathComponents b.filename) := by
  show (pathComponents a.filename == pathComponents b.filename) = _
  exact Bool.beq_eq_decide_eq _ _

theorem contains_iff (incs : List FileInclude) (fi : FileInclude) :
    incs.contains fi = true ↔ ∃ a ∈ incs, pathComponents a.filename = pathComponents fi.filename := by
  rw [List.contains_iff_exists_mem_beq]
  exact exists_congr fun a => and_congr_right fun _ => by rw [fi_beq, decide_eq_true_eq, eq_comm]

/-- `addInclude` either leaves the work-list alone (the file is known) or appends the include (no
    entry names its file) -/
theorem addInclude_cases (incs : List FileInclude) (fi : FileInclude) :
    ((∃ a ∈ incs, pathComponents a.filename = pathComponents fi.filename) ∧ addInclude incs fi = incs) ∨
    ((∀ a ∈ incs, pathComponents a.filename ≠ pathComponents fi.filename) ∧
      addInclude incs fi = incs ++ [fi]) := by
  unfold addInclude
  split
  · next hc => exact .inl ⟨(contains_iff incs fi).1 hc, rfl⟩
  · next hc => exact .inr ⟨fun a ha e => hc ((contains_iff incs fi).2 ⟨a, ha, e⟩), rfl⟩

/-- (a) an include that is already in the work-list (or any include of its FILE) is not added again -/
theorem addInclude_of_mem (incs : List FileInclude) (fi : FileInclude) (h : fi ∈ incs) :
    addInclude incs fi = incs :=
  (addInclude_cases incs fi).elim (·.2) fun hn => absurd rfl (hn.1 fi h)

/-- `incs'` is `incs` with includes added at its end, and what `incs` had of distinctness is kept:
    how the work-list changes, by one include, one document, one file or a whole run -/
def Grows (incs incs' : List FileInclude) : Prop :=
  incs <+: incs' ∧ (incs.Nodup → incs'.Nodup) ∧ (DistinctFiles incs → DistinctFiles incs')

theorem Grows.refl (incs : List FileInclude) : Grows incs incs := ⟨List.prefix_refl _, id, id⟩

theorem Grows.trans {a b c : List FileInclude} (h1 : Grows a b) (h2 : Grows b c) : Grows a c :=
  ⟨h1.1.trans h2.1, h2.2.1 ∘ h1.2.1, h2.2.2 ∘ h1.2.2⟩

theorem addInclude_grows (incs : List FileInclude) (fi : FileInclude) : Grows incs (addInclude incs fi) := by
  rcases addInclude_cases incs fi with ⟨_, e⟩ | ⟨hm, e⟩ <;> rw [e]
  · exact .refl _
  · refine ⟨List.prefix_append _ _, fun h => ?_, fun h => ?_⟩
    · exact List.nodup_snoc.2 ⟨h, fun hfi => hm fi hfi rfl⟩
    · exact List.pairwise_append.2 ⟨h, List.pairwise_singleton _ _,
        fun a ha b hb => List.mem_singleton.1 hb ▸ hm a ha⟩

theorem foldl_grows {β} {f : List FileInclude → β → List FileInclude} (hf : ∀ acc x, Grows acc (f acc x))
    (l : List β) (incs : List FileInclude) : Grows incs (l.foldl f incs) :=
  List.foldlRecOn l f (.refl _) fun _ h x _ => h.trans (hf _ x)

theorem docIncludes_grows (rel : String) (incs : List FileInclude) (nd : LDoc) :
    Grows incs (docIncludes rel incs nd) :=
  (foldl_grows addInclude_grows _ _).trans (foldl_grows addInclude_grows _ _)

/-- after `addInclude` the FILE is on the work-list (the include itself only if the file was new) -/
theorem addInclude_mem (incs : List FileInclude) (fi : FileInclude) :
    ∃ a ∈ addInclude incs fi, pathComponents a.filename = pathComponents fi.filename := by
  rcases addInclude_cases incs fi with ⟨hm, e⟩ | ⟨_, e⟩
  · rw [e]; exact hm
  · rw [e]; exact ⟨fi, List.mem_concat_self, rfl⟩

/-- the documents of the file `inc` names, numbered from `start` -/
def docsOfFile (inc : FileInclude) (start : Nat) (ds : List YDoc) : List LDoc :=
  ds.zipIdx.map (mkLDoc inc start)

theorem docsOfFile_filename (inc : FileInclude) (start : Nat) (ds : List YDoc) (d : LDoc)
    (h : d ∈ docsOfFile inc start ds) : d.filename = inc.filename ∧ d.includedBy = inc.includedBy := by
  unfold docsOfFile at h
  rw [List.mem_map] at h
  obtain ⟨dn, _, rfl⟩ := h
  exact ⟨rfl, rfl⟩

theorem docsOfFile_idx (inc : FileInclude) (start : Nat) (ds : List YDoc) :
    (docsOfFile inc start ds).map (·.idx) = (List.range ds.length).map (start + ·) := by
  unfold docsOfFile
  rw [List.map_map]
  have : ((fun x : LDoc => x.idx) ∘ mkLDoc inc start) = (fun n => start + n) ∘ Prod.snd := by
    funext dn; rfl
  rw [this, ← List.map_map, List.zipIdx_map_snd, List.range_eq_range']

theorem docsOfFile_length (inc : FileInclude) (start : Nat) (ds : List YDoc) :
    (docsOfFile inc start ds).length = ds.length := by
  unfold docsOfFile; rw [List.length_map, List.length_zipIdx]

/-- the documents are numbered by their position -/
def Numbered (docs : List LDoc) : Prop := docs.map (·.idx) = List.range docs.length

theorem numbered_append (docs : List LDoc) (inc : FileInclude) (ds : List YDoc) (h : Numbered docs) :
    Numbered (docs ++ docsOfFile inc docs.length ds) := by
  unfold Numbered at *
  rw [List.map_append, h, docsOfFile_idx, List.length_append, docsOfFile_length, List.range_add]

/-- reading the includes of a work-list one after the other (a file that cannot be read stops
    nothing here: `loadFiles` has failed before) -/
def readAll (fs : Files) : List FileInclude → List LDoc → List LDoc
  | [], docs => docs
  | inc :: rest, docs =>
    match fs.find? (fun fd => pathComponents fd.1 == pathComponents inc.filename) with
    | none => docs
    | some fd => readAll fs rest (docs ++ docsOfFile inc docs.length fd.2)

/-- **C17, work-list** — for a successful `loadFiles`:
    (a) the work-list stays duplicate-free, keeps naming pairwise different FILES, and only grows
        at its end;
    (b) the documents stay numbered by position;
    (c) the documents are exactly those of the includes of the FINAL work-list from `pos` on, each
        include read once, in work-list order (so, with (a): each FILE is read once). -/
theorem loadFiles_spec (fs : Files) (fuel pos : Nat) (incs : List FileInclude) (docs docs' : List LDoc)
    (incs' : List FileInclude) (h : loadFiles fs fuel pos incs docs = .ok (docs', incs')) :
    incs <+: incs' ∧ (incs.Nodup → incs'.Nodup) ∧ (DistinctFiles incs → DistinctFiles incs') ∧
      (Numbered docs → Numbered docs') ∧ docs' = readAll fs (incs'.drop pos) docs := by
  fun_induction loadFiles fs fuel pos incs docs with
  | case1 => cases h
  | case2 pos incs docs hlt =>
    cases h
    exact ⟨List.prefix_refl _, id, id, id, by rw [List.drop_eq_nil_of_le (Nat.le_of_not_lt hlt)]; rfl⟩
  | case3 fuel pos incs docs hp =>
    cases h
    exact ⟨List.prefix_refl _, id, id, id, by rw [List.drop_eq_nil_of_le (List.getElem?_eq_none_iff.1 hp)]; rfl⟩
  | case4 => cases h
  | case5 fuel pos incs docs inc hp fd hf ih =>
    obtain ⟨hpre, hnd, hdf, hnum, hdocs⟩ := ih h
    obtain ⟨hpre, hnd, hdf⟩ := (foldl_grows (docIncludes_grows (pathParent inc.filename))
      (fd.2.zipIdx.map (mkLDoc inc docs.length)) incs).trans ⟨hpre, hnd, hdf⟩
    refine ⟨hpre, hnd, hdf, fun hn => hnum (numbered_append docs inc fd.2 hn), ?_⟩
    obtain ⟨hlt, hinc⟩ := List.getElem?_eq_some_iff.1 hp
    have hget : incs'[pos]? = some inc := hinc ▸ List.prefix_iff_getElem?.1 hpre pos hlt
    rw [List.drop_eq_getElem?_toList_append, hget, Option.toList_some, List.singleton_append, readAll, hf]
    exact hdocs

/-- from the project file: the work-list names pairwise different files (so it is duplicate-free),
    documents are numbered by position and are the documents of the work-list entries, each read
    once, in order: every lazefile is read ONCE -/
theorem load_work_list (fs : Files) (fuel : Nat) (project : String) (docs' : List LDoc)
    (incs' : List FileInclude) (h : loadFiles fs fuel 0 [⟨project, none⟩] [] = .ok (docs', incs')) :
    DistinctFiles incs' ∧ incs'.Nodup ∧ incs'.head? = some ⟨project, none⟩ ∧ Numbered docs' ∧
      docs' = readAll fs incs' [] := by
  obtain ⟨hpre, _, hdf, hnum, hdocs⟩ := loadFiles_spec fs fuel 0 _ _ _ _ h
  have hd : DistinctFiles incs' := hdf (List.pairwise_singleton _ _)
  refine ⟨hd, hd.nodup, ?_, hnum rfl, hdocs⟩
  obtain ⟨t, rfl⟩ := hpre
  rfl

/-- the (normalised) names of the files that can be read -/
def fileKeys (fs : Files) : List (List String) := fs.map (fun fd => pathComponents fd.1)

theorem fileKeys_of_find {fs : Files} {inc : FileInclude} {fd : String × List YDoc}
    (h : fs.find? (fun fd => pathComponents fd.1 == pathComponents inc.filename) = some fd) :
    fkey inc ∈ fileKeys fs := by
  have h3 : pathComponents fd.1 = pathComponents inc.filename := by simpa using List.find?_some h
  unfold fileKeys fkey
  rw [← h3]
  exact List.mem_map_of_mem (List.mem_of_find?_eq_some h)

/-- the two ways the loop fails. `hang`: when the fuel runs out, the work-list has grown to more than `pos + fuel`
    entries, and the entries before `pos + fuel` are the ones that were read: they name existing files if those
    before `pos` did -/
theorem loadFiles_error {fs : Files} {fuel pos : Nat} {incs : List FileInclude} {docs : List LDoc} {e : LErr}
    (h : loadFiles fs fuel pos incs docs = .error e) :
    e = .error "cannot read file" ∨ e = .hang "include work-list does not terminate" ∧
      ∃ incs', Grows incs incs' ∧ pos + fuel < incs'.length ∧
        ((∀ a ∈ incs.take pos, fkey a ∈ fileKeys fs) → ∀ a ∈ incs'.take (pos + fuel), fkey a ∈ fileKeys fs) := by
  fun_induction loadFiles fs fuel pos incs docs with
  | case1 pos incs docs hlt => cases h; exact .inr ⟨rfl, incs, .refl _, hlt, id⟩
  | case2 => cases h
  | case3 => cases h
  | case4 => cases h; exact .inl rfl
  | case5 fuel pos incs docs inc hp fd hf ih =>
    obtain he | ⟨he, incs', hg, hlen, hr'⟩ := ih h
    · exact .inl he
    refine .inr ⟨he, incs', ?_⟩
    have g := foldl_grows (docIncludes_grows (pathParent inc.filename))
      (fd.2.zipIdx.map (mkLDoc inc docs.length)) incs
    have hlt : pos < incs.length := (List.getElem?_eq_some_iff.1 hp).1
    refine ⟨g.trans hg, by omega, fun hr => ?_⟩
    rw [show pos + (fuel + 1) = pos + 1 + fuel by omega]
    refine hr' fun a ha => ?_
    obtain ⟨t, ht⟩ := g.1
    rw [← ht, List.take_append_of_le_length (by omega), List.take_add_one, hp, List.mem_append] at ha
    rcases ha with ha | ha
    · exact hr a ha
    · rw [Option.toList_some, List.mem_singleton] at ha
      exact ha ▸ fileKeys_of_find hf

/-- `hang`: when the fuel runs out the work-list (which only ever grows at its end) has more
    than `pos + fuel` entries: after `fuel` more files were read there is still an unread one -/
theorem loadFiles_hang (fs : Files) (fuel pos : Nat) (incs : List FileInclude) (docs : List LDoc) (w : String)
    (h : loadFiles fs fuel pos incs docs = .error (.hang w)) :
    ∃ incs', incs <+: incs' ∧ pos + fuel < incs'.length := by
  obtain ⟨_, incs', g, hl, _⟩ := (loadFiles_error h).resolve_left LErr.noConfusion
  exact ⟨incs', g.1, hl⟩

/-- every file is read at most once, so with more fuel than there are files left to read the work-list loop
    always ends — with the documents or with "cannot read file". (Before the fix of the work-list's identity
    this was FALSE: a self-including file ran out of every fuel.) -/
theorem loadFiles_no_hang (fs : Files) (fuel pos : Nat) (incs : List FileInclude) (docs : List LDoc) (w : String)
    (hd : DistinctFiles incs) (hr : ∀ a ∈ incs.take pos, fkey a ∈ fileKeys fs) (hfuel : fs.length < pos + fuel) :
    loadFiles fs fuel pos incs docs ≠ .error (.hang w) := by
  intro h
  obtain ⟨_, incs', g, hlen, hr'⟩ := (loadFiles_error h).resolve_left LErr.noConfusion
  -- pigeonhole: the `pos + fuel` first entries name pairwise different files, all of them in `fs`
  have hnd : ((incs'.take (pos + fuel)).map fkey).Nodup :=
    (List.pairwise_map.2 (g.2.2 hd)).sublist ((List.take_sublist _ _).map _)
  have hle := hnd.length_le_of_subset (l₂ := fileKeys fs) fun k hk => by
    obtain ⟨a, ha, rfl⟩ := List.mem_map.1 hk
    exact hr' hr a ha
  rw [List.length_map, List.length_take, fileKeys, List.length_map] at hle
  omega

/-- in particular the call `load` makes never reports `hang` -/
theorem load_files_no_hang (fs : Files) (project : String) (w : String) :
    loadFiles fs (4 * fs.length + 8) 0 [⟨project, none⟩] [] ≠ .error (.hang w) :=
  loadFiles_no_hang fs _ 0 _ _ w (List.pairwise_singleton _ _) (fun _ h => by cases h) (by omega)

namespace WorkList
/-- two documents of the project file list the same subdirectory -/
def fs : Files :=
  [("laze.yml", [{ subdirs := some ["a"] }, { subdirs := some ["a"] }]), ("a/laze.yml", [{}])]

/-- what a successful `loadFiles` read: (file name, index, includer) of each document, and the work-list -/
def summary (r : Except LErr (List LDoc × List FileInclude)) :
    Option (List (String × Nat × Option Nat) × List FileInclude) :=
  match r with
  | .ok (docs, incs) => some (docs.map (fun d => (d.filename, d.idx, d.includedBy)), incs)
  | .error _ => none

-- `a/laze.yml` is read ONCE (for the first document that lists it): 3 documents, 2 work-list entries.
-- (`decide (_ = _)`: `==` on includes only compares the file names. These facts are `#guard`s, not
-- `decide` proofs, because `String.splitOn` inside `pathComponents` does not reduce in the kernel.)
#guard decide (summary (loadFiles fs 10 0 [⟨"laze.yml", none⟩] []) =
    some ([("laze.yml", 0, none), ("laze.yml", 1, none), ("a/laze.yml", 2, some 0)],
      [⟨"laze.yml", none⟩, ⟨"a/laze.yml", some 0⟩]))

/-- a file that includes itself (also under names with redundant separators) -/
def selfInc : Files := [("laze.yml", [{ includes := some ["laze.yml", "laze.yml/", "laze.yml/."] }])]
-- … is read once: the work-list is keyed by the (normalised) file name; `load` succeeds, no `hang`
#guard decide (summary (loadFiles selfInc 10 0 [⟨"laze.yml", none⟩] []) =
    some ([("laze.yml", 0, none)], [⟨"laze.yml", none⟩]))
#guard (match load selfInc "laze.yml" "build" with
  | .ok (b, files) => b.contexts.map (·.name) == ["default"] && files == ["laze.yml"]
  | .error _ => false)

/-- `..` and a leading `.` are NOT normalised away (as in `Path::components`): these spellings name
    other files, which the model's file table does not have -/
def selfInc2 : Files := [("laze.yml", [{ includes := some ["sub/../laze.yml"] }])]
def selfInc3 : Files := [("laze.yml", [{ includes := some ["./laze.yml"] }])]
#guard (match load selfInc2 "laze.yml" "build" with
  | .error (.error "cannot read file") => true
  | _ => false)
#guard (match load selfInc3 "laze.yml" "build" with
  | .error (.error "cannot read file") => true
  | _ => false)
end WorkList

end Laze.C17
