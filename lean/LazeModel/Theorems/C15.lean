import LazeModel.Generated.PanicSites
/-! C15 — malformed projects are rejected with a diagnostic, never a crash: the reviewed table of
    potential panic sites (`unwrap`, `expect`, `panic!`, asserts, non-literal index/slice expressions)
    and the obligation that the inventory regenerated from /repo/src on every run is covered by it —
    a new site, or one more `unwrap` in a reviewed function, breaks it. The totality theorems about
    the model are in C15_total.lean. -/
namespace Laze.C15
open Laze

inductive Class where
  | proved           -- the model has the same failure point and a theorem shows it unreachable
  | guarded          -- the preceding lines establish the index / Some
  | builderComplete  -- derive_builder `.build().unwrap()` with every required field set
  | environment      -- depends on the process environment only (non-UTF-8 cwd/argv, missing current_exe)
  | outOfScope       -- subcommands not covered by the properties (new, completion, manpages, imports)
  deriving Repr, DecidableEq

/-- reviewed classification of every potential panic site: (file, fn, kind, count) -/
def reviewed : List ((String × String × String × Nat) × Class × String) := [
  (("build.rs", "state_pop", "expect", 1), Class.proved, "state_pop on an empty stack: C12.l1_refines_l2 / stack_balanced (every pop is preceded by the push of the same call)"),
  (("cli/completer.rs", "app_completer", "unwrap", 1), Class.outOfScope, "subcommands/features outside the properties: completion, imports, new, manpages"),
  (("cli/completer.rs", "builder_completer", "unwrap", 1), Class.outOfScope, "subcommands/features outside the properties: completion, imports, new, manpages"),
  (("cli/completer.rs", "module_completer", "unwrap", 1), Class.outOfScope, "subcommands/features outside the properties: completion, imports, new, manpages"),
  (("cli/completer.rs", "new", "expect", 1), Class.outOfScope, "subcommands/features outside the properties: completion, imports, new, manpages"),
  (("cli/completer.rs", "new", "unwrap", 1), Class.outOfScope, "subcommands/features outside the properties: completion, imports, new, manpages"),
  (("cli/completer.rs", "task_completer", "unwrap", 1), Class.outOfScope, "subcommands/features outside the properties: completion, imports, new, manpages"),
  (("data.rs", "convert_context", "unwrap", 2), Class.guarded, "index/Option established by the preceding lines (parent_index/index/context_id set in finalize/add_*; filename.parent(); relpath/srcdir/filename set by init_module/load_all; slices after starts_with/first-byte tests; constant version string)"),
  (("data.rs", "convert_module", "unwrap", 4), Class.guarded, "index/Option established by the preceding lines (parent_index/index/context_id set in finalize/add_*; filename.parent(); relpath/srcdir/filename set by init_module/load_all; slices after starts_with/first-byte tests; constant version string)"),
  (("data.rs", "dependency_from_string", "index", 1), Class.guarded, "index/Option established by the preceding lines (parent_index/index/context_id set in finalize/add_*; filename.parent(); relpath/srcdir/filename set by init_module/load_all; slices after starts_with/first-byte tests; constant version string)"),
  (("data.rs", "dependency_from_string_if", "index", 1), Class.guarded, "index/Option established by the preceding lines (parent_index/index/context_id set in finalize/add_*; filename.parent(); relpath/srcdir/filename set by init_module/load_all; slices after starts_with/first-byte tests; constant version string)"),
  (("data.rs", "deserialize_version_checked", "unwrap", 1), Class.guarded, "index/Option established by the preceding lines (parent_index/index/context_id set in finalize/add_*; filename.parent(); relpath/srcdir/filename set by init_module/load_all; slices after starts_with/first-byte tests; constant version string)"),
  (("data.rs", "get_defaults", "unwrap", 7), Class.guarded, "index/Option established by the preceding lines (parent_index/index/context_id set in finalize/add_*; filename.parent(); relpath/srcdir/filename set by init_module/load_all; slices after starts_with/first-byte tests; constant version string)"),
  (("data.rs", "init_module", "unwrap", 1), Class.guarded, "`filename.parent()` of a lazefile path that was just read (it has a file name, hence a parent); the two unwraps on `strip_prefix(import_root)` were a real panic for a file included from outside its import root (33edd4d)"),
  (("data.rs", "load", "index", 1), Class.guarded, "index/Option established by the preceding lines (parent_index/index/context_id set in finalize/add_*; filename.parent(); relpath/srcdir/filename set by init_module/load_all; slices after starts_with/first-byte tests; constant version string)"),
  (("data.rs", "load", "unwrap", 3), Class.guarded, "index/Option established by the preceding lines (parent_index/index/context_id set in finalize/add_*; filename.parent(); relpath/srcdir/filename set by init_module/load_all; slices after starts_with/first-byte tests; constant version string)"),
  (("data.rs", "new_import", "unwrap", 1), Class.outOfScope, "subcommands/features outside the properties: completion, imports, new, manpages"),
  (("data.rs", "process_removes", "index", 2), Class.guarded, "index/Option established by the preceding lines (parent_index/index/context_id set in finalize/add_*; filename.parent(); relpath/srcdir/filename set by init_module/load_all; slices after starts_with/first-byte tests; constant version string)"),
  (("data/import/download.rs", "handle", "unwrap", 5), Class.outOfScope, "subcommands/features outside the properties: completion, imports, new, manpages"),
  (("data/import/local.rs", "handle", "unwrap", 1), Class.guarded, "`read_link` right after `is_symlink`; the three input-dependent unwraps (file_name of the import path, diff_utf8_paths, parent of the link path with an absolute dldir) were real panics found by the C15 campaign and are errors since 611d4e8 / 33edd4d"),
  (("download.rs", "patch", "unwrap", 4), Class.builderComplete, "derive_builder .build().unwrap() with every required field set in the same expression; Option fields set by the loader"),
  (("download.rs", "render", "unwrap", 2), Class.builderComplete, "derive_builder .build().unwrap() with every required field set in the same expression; Option fields set by the loader"),
  (("download.rs", "srcdir", "unwrap", 1), Class.guarded, "index/Option established by the preceding lines (parent_index/index/context_id set in finalize/add_*; filename.parent(); relpath/srcdir/filename set by init_module/load_all; slices after starts_with/first-byte tests; constant version string)"),
  (("generate.rs", "configure_build", "panic", 1), Class.proved, "fields set by the loader (context_id, index, relpath, defined_in, env), build-dir inserted as Single, complete builders, modules.get(dep_name): C15.configureBuild_no_panic (every node of the build order is a selected module)"),
  (("generate.rs", "configure_build", "unwrap", 15), Class.proved, "fields set by the loader (context_id, index, relpath, defined_in, env), build-dir inserted as Single, complete builders, modules.get(dep_name): C15.configureBuild_no_panic (every node of the build order is a selected module)"),
  (("generate.rs", "execute", "expect", 1), Class.environment, "current_exe / cwd / argv not UTF-8, clap defaults present, OnceLock set once"),
  (("generate.rs", "execute", "index", 1), Class.environment, "current_exe / cwd / argv not UTF-8, clap defaults present, OnceLock set once"),
  (("generate.rs", "execute", "unwrap", 3), Class.environment, "current_exe / cwd / argv not UTF-8, clap defaults present, OnceLock set once"),
  (("generate.rs", "get_rule", "unwrap", 2), Class.guarded, "index/Option established by the preceding lines (parent_index/index/context_id set in finalize/add_*; filename.parent(); relpath/srcdir/filename set by init_module/load_all; slices after starts_with/first-byte tests; constant version string)"),
  (("insights.rs", "from", "unwrap", 1), Class.guarded, "index/Option established by the preceding lines (parent_index/index/context_id set in finalize/add_*; filename.parent(); relpath/srcdir/filename set by init_module/load_all; slices after starts_with/first-byte tests; constant version string)"),
  (("main.rs", "collect_tasks", "expect", 1), Class.environment, "current_exe / cwd / argv not UTF-8, clap defaults present, OnceLock set once"),
  (("main.rs", "create_manpage", "expect", 1), Class.outOfScope, "subcommands/features outside the properties: completion, imports, new, manpages"),
  (("main.rs", "create_manpage", "unwrap", 10), Class.outOfScope, "subcommands/features outside the properties: completion, imports, new, manpages"),
  (("main.rs", "ninja_run", "unwrap", 1), Class.builderComplete, "derive_builder .build().unwrap() with every required field set in the same expression; Option fields set by the loader"),
  (("main.rs", "try_main", "expect", 1), Class.environment, "current_exe / cwd / argv not UTF-8, clap defaults present, OnceLock set once"),
  (("main.rs", "try_main", "unwrap", 4), Class.environment, "current_exe / cwd / argv not UTF-8, clap defaults present, OnceLock set once"),
  (("model/context.rs", "count_parents", "index", 1), Class.guarded, "index/Option established by the preceding lines (parent_index/index/context_id set in finalize/add_*; filename.parent(); relpath/srcdir/filename set by init_module/load_all; slices after starts_with/first-byte tests; constant version string)"),
  (("model/context.rs", "get_parent", "index", 1), Class.guarded, "index/Option established by the preceding lines (parent_index/index/context_id set in finalize/add_*; filename.parent(); relpath/srcdir/filename set by init_module/load_all; slices after starts_with/first-byte tests; constant version string)"),
  (("model/context.rs", "new_build_context", "unwrap", 1), Class.guarded, "index/Option established by the preceding lines (parent_index/index/context_id set in finalize/add_*; filename.parent(); relpath/srcdir/filename set by init_module/load_all; slices after starts_with/first-byte tests; constant version string)"),
  (("model/context.rs", "resolve_module", "index", 1), Class.guarded, "index/Option established by the preceding lines (parent_index/index/context_id set in finalize/add_*; filename.parent(); relpath/srcdir/filename set by init_module/load_all; slices after starts_with/first-byte tests; constant version string)"),
  (("model/context_bag.rs", "add_context_or_builder", "index", 1), Class.guarded, "index/Option established by the preceding lines (parent_index/index/context_id set in finalize/add_*; filename.parent(); relpath/srcdir/filename set by init_module/load_all; slices after starts_with/first-byte tests; constant version string)"),
  (("model/context_bag.rs", "add_context_or_builder", "unwrap", 1), Class.guarded, "index/Option established by the preceding lines (parent_index/index/context_id set in finalize/add_*; filename.parent(); relpath/srcdir/filename set by init_module/load_all; slices after starts_with/first-byte tests; constant version string)"),
  (("model/context_bag.rs", "add_module", "index", 1), Class.guarded, "index/Option established by the preceding lines (parent_index/index/context_id set in finalize/add_*; filename.parent(); relpath/srcdir/filename set by init_module/load_all; slices after starts_with/first-byte tests; constant version string)"),
  (("model/context_bag.rs", "add_module", "unwrap", 2), Class.guarded, "defined_in of the module being added: set by init_module for every module that comes from a file (the third unwrap, on the OTHER module of a name clash, was a real panic for the implicit default context's module: 165d73e)"),
  (("model/context_bag.rs", "context_by_id", "index", 1), Class.guarded, "index/Option established by the preceding lines (parent_index/index/context_id set in finalize/add_*; filename.parent(); relpath/srcdir/filename set by init_module/load_all; slices after starts_with/first-byte tests; constant version string)"),
  (("model/context_bag.rs", "finalize", "index", 7), Class.guarded, "index/Option established by the preceding lines (parent_index/index/context_id set in finalize/add_*; filename.parent(); relpath/srcdir/filename set by init_module/load_all; slices after starts_with/first-byte tests; constant version string)"),
  (("model/context_bag.rs", "finalize", "unwrap", 4), Class.guarded, "index/Option established by the preceding lines (parent_index/index/context_id set in finalize/add_*; filename.parent(); relpath/srcdir/filename set by init_module/load_all; slices after starts_with/first-byte tests; constant version string)"),
  (("model/context_bag.rs", "get_by_name", "index", 1), Class.guarded, "index/Option established by the preceding lines (parent_index/index/context_id set in finalize/add_*; filename.parent(); relpath/srcdir/filename set by init_module/load_all; slices after starts_with/first-byte tests; constant version string)"),
  (("model/context_bag.rs", "is_ancestor_in_list", "unwrap", 2), Class.guarded, "index/Option established by the preceding lines (parent_index/index/context_id set in finalize/add_*; filename.parent(); relpath/srcdir/filename set by init_module/load_all; slices after starts_with/first-byte tests; constant version string)"),
  (("model/context_bag.rs", "merge_provides", "index", 4), Class.guarded, "index/Option established by the preceding lines (parent_index/index/context_id set in finalize/add_*; filename.parent(); relpath/srcdir/filename set by init_module/load_all; slices after starts_with/first-byte tests; constant version string)"),
  (("model/context_bag.rs", "merge_provides", "unwrap", 2), Class.guarded, "index/Option established by the preceding lines (parent_index/index/context_id set in finalize/add_*; filename.parent(); relpath/srcdir/filename set by init_module/load_all; slices after starts_with/first-byte tests; constant version string)"),
  (("model/module.rs", "fmt", "index", 1), Class.guarded, "index/Option established by the preceding lines (parent_index/index/context_id set in finalize/add_*; filename.parent(); relpath/srcdir/filename set by init_module/load_all; slices after starts_with/first-byte tests; constant version string)"),
  (("model/rule.rs", "to_ninja", "unwrap", 1), Class.builderComplete, "derive_builder .build().unwrap() with every required field set in the same expression; Option fields set by the loader"),
  (("model/task.rs", "execute", "unwrap", 2), Class.environment, "EXIT_ON_SIGINT initialised in try_main"),
  (("nested_env/expand.rs", "expand_recursive", "index", 6), Class.proved, "byte offsets of ASCII markers found by str::find / guarded by i+1<len, i==0||..: model of expand/eval has no panic result (C13.expand_no_panic, fuel_suffices)"),
  (("nested_env/expr.rs", "eval_recursive", "index", 3), Class.proved, "byte offsets of ASCII markers found by str::find / guarded by i+1<len, i==0||..: model of expand/eval has no panic result (C13.expand_no_panic, fuel_suffices)"),
  (("nested_env/mod.rs", "flatten_with_opts", "index", 1), Class.guarded, "index/Option established by the preceding lines (parent_index/index/context_id set in finalize/add_*; filename.parent(); relpath/srcdir/filename set by init_module/load_all; slices after starts_with/first-byte tests; constant version string)"),
  (("new.rs", "from_matches", "unwrap", 7), Class.outOfScope, "subcommands/features outside the properties: completion, imports, new, manpages"),
  (("ninja/mod.rs", "alias", "unwrap", 1), Class.builderComplete, "derive_builder .build().unwrap() with every required field set in the same expression; Option fields set by the loader"),
  (("ninja/mod.rs", "alias_multiple", "unwrap", 1), Class.builderComplete, "derive_builder .build().unwrap() with every required field set in the same expression; Option fields set by the loader"),
  (("ninja/mod.rs", "generate_compile_commands", "unwrap", 1), Class.builderComplete, "derive_builder .build().unwrap() with every required field set in the same expression; Option fields set by the loader"),
  (("utils.rs", "from", "unwrap", 1), Class.guarded, "drain(..).last() on an export map: deserialize_export rejects maps with len != 1")
]

/-- translator obligation: every potential panic site found in the source today is in the reviewed table -/
theorem panic_sites_reviewed :
    Generated.panicSites.all (fun c => reviewed.any (fun r => r.1 == c)) = true := by
  decide +kernel

theorem reviewed_nonempty : reviewed.length > 0 := by decide +kernel

end Laze.C15
