import LazeModel.Lemmas.Resolver
/-! C12 — the modules of a build and their order: depth-first, first reach wins, optional
    dependencies that cannot be resolved are invisible, rollback on failure, shadowing, provider
    order.

    * An imperative mirror ("L1") of the resolver with an explicit snapshot stack
      (`state_push` / `state_pop` / `stack.pop()` of `src/build.rs`) and the theorem that it computes
      exactly the pure model ("L2", `LazeModel/Model/Resolver.lean`): the stack is balanced and the
      state is restored on every error path.
    * An optional dependency that cannot be resolved leaves the build as if not written.
    * Shadowing (`Bag.resolveModule`) and provider order (`providedUp`).
    * In `C12_grow.lean`: the selected list only grows by appending, stays duplicate free, app first. -/
namespace Laze.C12
open Laze

deriving instance DecidableEq for RState

/-! ## the imperative machine (L1) -/

structure Machine where
  cur : RState
  stack : List RState
  deriving DecidableEq, Repr

/-- `state_push`: push a clone of the current state -/
def Machine.push (M : Machine) : Machine := ⟨M.cur, M.cur :: M.stack⟩
/-- `state_pop`: restore the newest snapshot -/
def Machine.pop (M : Machine) : Machine :=
  match M.stack with
  | [] => M
  | t :: r => ⟨t, r⟩
/-- `stack.pop()`: discard the newest snapshot, keep the current state -/
def Machine.discard (M : Machine) : Machine := ⟨M.cur, M.stack.tail⟩
def Machine.modify (f : RState → RState) (M : Machine) : Machine := ⟨f M.cur, M.stack⟩

/-- the rejection tests of `resolve_module_deep` (the tests of `enter`) -/
def rejected (m : Mod) (s : RState) : Bool :=
  s.isDisabled m.name || (m.conflicts.any (fun c => s.isSel c || s.isProvided c) ||
    m.provides.any (fun p => s.isDisabled p))

/-- registration of the module in the current state (the `.ok` state of `enter`) -/
def register (m : Mod) (s : RState) : RState :=
  { s with
    sel := s.sel ++ [m.name]
    disabled := s.disabled ++ m.conflicts.map (fun c => (c, some m.name))
    providedBy := s.providedBy ++ m.provides.map (fun p => (p, m.name)) }

theorem enter_cases (m : Mod) (s : RState) :
    rejected m s = true ∧ (∃ e, enter m s = .error e) ∨
      rejected m s = false ∧ enter m s = .ok (register m s) := by
  unfold rejected
  fun_cases enter m s with
  | case1 h1 => exact .inl ⟨by rw [h1]; rfl, _, rfl⟩
  | case2 _ h2 => exact .inl ⟨by rw [h2, Bool.true_or, Bool.or_true], _, rfl⟩
  | case3 _ _ h3 => exact .inl ⟨by rw [h3, Bool.or_true, Bool.or_true], _, rfl⟩
  | case4 h1 h2 h3 =>
    rw [Bool.not_eq_true] at h1 h2 h3
    exact .inr ⟨by rw [h1, h2, h3]; rfl, rfl⟩

abbrev IRec := Mod → Machine → Bool × Machine

/-- `resolve_module_name_deep` -/
def resolveNameI (w : World) (recI : IRec) (n : Name) (M : Machine) : Bool × Machine :=
  match w.lookup n with
  | none => (false, M)
  | some m => recI m M

/-- `resolve_module_list` -/
def resolveListI (w : World) (recI : IRec) : List Name → Name → Nat → Machine → Nat × Machine
  | [], _, cnt, M => (cnt, M)
  | p :: ps, feat, cnt, M =>
    if M.cur.isSel p then resolveListI w recI ps feat (cnt+1) M
    else if M.cur.isDisabled feat then
      (if cnt > 0 then (cnt, M) else resolveListI w recI ps feat cnt M)
    else match resolveNameI w recI p M with
      | (true, M') => resolveListI w recI ps feat (cnt+1) M'
      | (false, M') => resolveListI w recI ps feat cnt M'

/-- one dependency name; on an optional failure the loop simply continues -/
def resolveOneI (w : World) (recI : IRec) (n : Name) (optional : Bool) (M : Machine) : Bool × Machine :=
  match resolveListI w recI (w.providers n) n 0 M with
  | (cnt, M1) =>
    if cnt > 0 && M1.cur.isDisabled n then (true, M1)
    else match resolveNameI w recI n M1 with
      | (true, M2) => (true, M2)
      | (false, M2) => if optional || cnt > 0 then (true, M2) else (false, M2)

/-- the loop over the dependencies; a hard failure does `state_pop` and returns -/
def resolveDepsI (w : World) (recI : IRec) : List Dep → Machine → Bool × Machine
  | [], M => (true, M)
  | .hard n :: ds, M => match resolveOneI w recI n false M with
    | (true, M') => resolveDepsI w recI ds M'
    | (false, M') => (false, M'.pop)
  | .soft n :: ds, M => match resolveOneI w recI n true M with
    | (true, M') => resolveDepsI w recI ds M'
    | (false, M') => (false, M'.pop)
  | .ifHard c n :: ds, M =>
    if M.cur.isSel c then match resolveOneI w recI n false M with
      | (true, M') => resolveDepsI w recI ds M'
      | (false, M') => (false, M'.pop)
    else resolveDepsI w recI ds (M.modify fun s => { s with pending := s.pending ++ [(c, .hard n)] })
  | .ifSoft c n :: ds, M =>
    if M.cur.isSel c then match resolveOneI w recI n true M with
      | (true, M') => resolveDepsI w recI ds M'
      | (false, M') => (false, M'.pop)
    else resolveDepsI w recI ds (M.modify fun s => { s with pending := s.pending ++ [(c, .soft n)] })

/-- `resolve_module_deep`: tests, `state_push`, registration, the loop (which pops on a hard
    failure), `stack.pop()` on success -/
def resolveDeepStepI (w : World) (recI : IRec) (m : Mod) (M : Machine) : Bool × Machine :=
  if M.cur.isSel m.name then (true, M)
  else if rejected m M.cur then (false, M)
  else
    let M1 := M.push.modify (register m)
    match resolveDepsI w recI (m.selects ++ lateDeps M1.cur m.name) M1 with
    | (true, M2) => (true, M2.discard)
    | (false, M2) => (false, M2)

def resolveDeepI (w : World) : Nat → IRec
  | 0 => fun _ M => (false, M)
  | fuel+1 => resolveDeepStepI w (resolveDeepI w fuel)

/-! ### refinement -/

/-- the outcome of an imperative call that implements the pure result `e` from machine `M`:
    on success the new state with the stack untouched, on failure the machine as it was -/
def outcome (M : Machine) (e : Except RErr RState) : Bool × Machine :=
  match e with
  | .ok s => (true, ⟨s, M.stack⟩)
  | .error _ => (false, M)

def RecRefines (recI : IRec) (rec : RRec) : Prop :=
  ∀ m M, recI m M = outcome M (rec m M.cur)

section refine
variable {w : World} {recI : IRec} {rec : RRec}

theorem name_refines (h : RecRefines recI rec) (n : Name) (M : Machine) :
    resolveNameI w recI n M = outcome M (resolveNameW w rec n M.cur) := by
  unfold resolveNameI resolveNameW
  cases w.lookup n with
  | none => rfl
  | some m => exact h m M

theorem list_refines (h : RecRefines recI rec) (f : Name) (ps : List Name) (cnt : Nat) (s : RState)
    (st : List RState) :
    resolveListI w recI ps f cnt ⟨s, st⟩ =
      ((resolveListW w rec ps f cnt s).1, ⟨(resolveListW w rec ps f cnt s).2, st⟩) := by
  fun_induction resolveListW w rec ps f cnt s with
  | case1 => rfl
  | case2 _ _ _ _ _ hs ih => rw [resolveListI, if_pos hs]; exact ih
  | case3 _ _ _ _ _ hs hd hc => rw [resolveListI, if_neg hs, if_pos hd, if_pos hc]
  | case4 _ _ _ _ _ hs hd hc ih => rw [resolveListI, if_neg hs, if_pos hd, if_neg hc]; exact ih
  | case5 _ _ _ _ _ hs hd _ hn ih => rw [resolveListI, if_neg hs, if_neg hd, name_refines h, hn]; exact ih
  | case6 _ _ _ _ _ hs hd _ hn ih => rw [resolveListI, if_neg hs, if_neg hd, name_refines h, hn]; exact ih

/-- `resolveOneI`: on success exactly the pure result; on failure the state is the one after the
    providers (the caller restores the state with `state_pop`) -/
theorem one_refines (h : RecRefines recI rec) (n : Name) (opt : Bool) (s : RState) (st : List RState) :
    resolveOneI w recI n opt ⟨s, st⟩ =
      match resolveOneW w rec n opt s with
      | .ok s' => (true, ⟨s', st⟩)
      | .error _ => (false, ⟨(resolveListW w rec (w.providers n) n 0 s).2, st⟩) := by
  unfold resolveOneI
  rw [list_refines h]
  fun_cases resolveOneW w rec n opt s with
  | case1 cnt s1 hl hc => rw [hl]; exact if_pos hc
  | case2 cnt s1 hl hc s2 hn => rw [hl]; simp only; rw [if_neg hc, name_refines h, hn]; rfl
  | case3 cnt s1 hl hc e hn ho => rw [hl]; simp only; rw [if_neg hc, name_refines h, hn]; exact if_pos ho
  | case4 cnt s1 hl hc e hn ho => rw [hl]; simp only; rw [if_neg hc, name_refines h, hn]; exact if_neg ho

theorem deps_cons_refines (h : RecRefines recI rec) (d : Dep) (ds : List Dep) (cur top : RState)
    (rest : List RState) :
    resolveDepsI w recI (d :: ds) ⟨cur, top :: rest⟩ =
      match resolveDepW w rec d cur with
      | .ok s => resolveDepsI w recI ds ⟨s, top :: rest⟩
      | .error _ => (false, ⟨top, rest⟩) := by
  cases d with
  | hard n | soft n =>
    simp only [resolveDepsI, resolveDepW]
    rw [one_refines h]
    cases resolveOneW w rec n _ cur <;> rfl
  | ifHard c n | ifSoft c n =>
    simp only [resolveDepsI, resolveDepW]
    split
    · rw [one_refines h]
      cases resolveOneW w rec n _ cur <;> rfl
    · rfl

theorem deps_refines (h : RecRefines recI rec) :
    ∀ (ds : List Dep) (cur top : RState) (rest : List RState),
      resolveDepsI w recI ds ⟨cur, top :: rest⟩ =
        match resolveDepsW w rec ds cur with
        | .ok s => (true, ⟨s, top :: rest⟩)
        | .error _ => (false, ⟨top, rest⟩)
  | [], _, _, _ => rfl
  | d :: ds, cur, top, rest => by
    rw [deps_cons_refines h, resolveDepsW_cons]
    cases resolveDepW w rec d cur with
    | ok s => exact deps_refines h ds s top rest
    | error e => rfl

theorem step_refines (h : RecRefines recI rec) :
    RecRefines (resolveDeepStepI w recI) (resolveDeepStep w rec) := by
  intro m M
  unfold resolveDeepStepI resolveDeepStep
  split
  · rfl
  · rcases enter_cases m M.cur with ⟨hr, e, he⟩ | ⟨hr, he⟩
    · rw [hr, he]; rfl
    · rw [hr, he]
      simp only [Bool.false_eq_true, if_false, Machine.push, Machine.modify]
      rw [deps_refines h]
      cases resolveDepsW w rec (m.selects ++ lateDeps (register m M.cur) m.name) (register m M.cur) <;> rfl

end refine

/-- **Refinement**: the machine with the snapshot stack computes exactly the pure resolver: on
    success the new state and the stack as it was, on failure the machine as it was. -/
theorem l1_refines_l2 (w : World) : ∀ (fuel : Nat) (m : Mod) (M : Machine),
    resolveDeepI w fuel m M =
      match resolveDeep w fuel m M.cur with
      | .ok s => (true, ⟨s, M.stack⟩)
      | .error _ => (false, M)
  | 0, _, _ => rfl
  | f+1, m, M => step_refines (l1_refines_l2 w f) m M

theorem stack_balanced (w : World) (fuel : Nat) (m : Mod) (M : Machine) :
    (resolveDeepI w fuel m M).2.stack = M.stack := by
  rw [l1_refines_l2]
  cases resolveDeep w fuel m M.cur <;> rfl

theorem failure_restores (w : World) (fuel : Nat) (m : Mod) (M : Machine)
    (h : (resolveDeepI w fuel m M).1 = false) : (resolveDeepI w fuel m M).2 = M := by
  rw [l1_refines_l2] at h ⊢
  cases hr : resolveDeep w fuel m M.cur with
  | ok s => rw [hr] at h; simp at h
  | error e => rfl

theorem l1_ok_iff (w : World) (fuel : Nat) (m : Mod) (M : Machine) (s : RState) :
    resolveDeepI w fuel m M = (true, ⟨s, M.stack⟩) ↔ resolveDeep w fuel m M.cur = .ok s := by
  rw [l1_refines_l2]
  cases resolveDeep w fuel m M.cur <;> simp

/-! ## optional dependencies never fail the parent, and are invisible when unresolvable -/

section soft
variable (w : World) (rec : RRec)

theorem optional_never_fails (n : Name) (s : RState) : ∃ s', resolveOneW w rec n true s = .ok s' := by
  fun_cases resolveOneW w rec n true s with
  | case1 | case2 | case3 => exact ⟨_, rfl⟩
  | case4 _ _ _ _ _ _ ho => exact absurd (Bool.true_or _) ho    -- the error branch needs `optional = false`

theorem one_soft_noop {n : Name} {s : RState} {e : RErr}
    (hl : resolveListW w rec (w.providers n) n 0 s = (0, s))
    (hn : resolveNameW w rec n s = .error e) : resolveOneW w rec n true s = .ok s := by
  unfold resolveOneW
  rw [hl]
  simp [hn]

/-- An optional dependency that cannot be resolved leaves the build exactly as if it had not been
    written. "Cannot be resolved": neither by a provider (`hl`: the loop over the providers of `n` took none and left the state as
    it was) nor by name (`hn`). -/
theorem soft_failure_invisible {n : Name} {s : RState} {e : RErr} (ds : List Dep)
    (hl : resolveListW w rec (w.providers n) n 0 s = (0, s))
    (hn : resolveNameW w rec n s = .error e) :
    resolveDepsW w rec (.soft n :: ds) s = resolveDepsW w rec ds s := by
  simp only [resolveDepsW, one_soft_noop w rec hl hn]

theorem ifSoft_failure_invisible {c n : Name} {s : RState} {e : RErr} (ds : List Dep)
    (hc : s.isSel c = true)
    (hl : resolveListW w rec (w.providers n) n 0 s = (0, s))
    (hn : resolveNameW w rec n s = .error e) :
    resolveDepsW w rec (.ifSoft c n :: ds) s = resolveDepsW w rec ds s := by
  simp only [resolveDepsW, hc, if_true, one_soft_noop w rec hl hn]

theorem noop_dep_invisible {d : Dep} (pre ds : List Dep) (s : RState)
    (h : ∀ s1, resolveDepsW w rec pre s = .ok s1 → resolveDepW w rec d s1 = .ok s1) :
    resolveDepsW w rec (pre ++ d :: ds) s = resolveDepsW w rec (pre ++ ds) s := by
  rw [resolveDepsW_append, resolveDepsW_append]
  cases hr : resolveDepsW w rec pre s with
  | ok s1 => simp only [resolveDepsW_cons, h s1 hr]
  | error e => rfl

/-- `soft_failure_invisible` anywhere in the dependency list of a module: the hypotheses are about
    the state reached there -/
theorem soft_failure_invisible_mid {n : Name} {e : RErr} :
    ∀ (pre ds : List Dep) (s : RState),
      (∀ s1, resolveDepsW w rec pre s = .ok s1 →
        resolveListW w rec (w.providers n) n 0 s1 = (0, s1) ∧ resolveNameW w rec n s1 = .error e) →
      resolveDepsW w rec (pre ++ .soft n :: ds) s = resolveDepsW w rec (pre ++ ds) s :=
  fun pre ds s h => noop_dep_invisible w rec pre ds s
    (fun s1 h1 => one_soft_noop w rec (h s1 h1).1 (h s1 h1).2)

end soft

/-! ## shadowing and provider order -/

theorem shadow_iff {b : Bag} {c n : Name} {m : Module} :
    b.resolveModule c n = some m ↔
      ∃ pre cx post, b.chainCtx c = pre ++ cx :: post ∧ cx.module? n = some m ∧
        ∀ cy ∈ pre, cy.module? n = none :=
  List.findSome?_eq_some_iff

/-- the module found for a name is the one of the nearest context on the chain that defines the
    name: every context before it does not define it -/
theorem shadow {b : Bag} {c n : Name} {m : Module} (h : b.resolveModule c n = some m) :
    ∃ pre cx post, b.chainCtx c = pre ++ cx :: post ∧ cx.module? n = some m ∧
      ∀ cy ∈ pre, cy.module? n = none :=
  shadow_iff.1 h

/-- a definition in the builder context itself (head of the chain) shadows all others -/
theorem shadow_nearest {b : Bag} {c n : Name} {cx : Context} {rest : List Context} {m : Module}
    (hc : b.chainCtx c = cx :: rest) (hm : cx.module? n = some m) : b.resolveModule c n = some m :=
  shadow_iff.2 ⟨[], cx, rest, hc, hm, List.forall_mem_nil _⟩

theorem resolveModule_name {b : Bag} {c n : Name} {m : Module} (h : b.resolveModule c n = some m) :
    m.name = n :=
  Bag.resolveModule_name h

/-- the resolver's world only sees the nearest definition -/
theorem world_lookup_shadow {b : Bag} {builder : Name} {app' : Module} {n : Name} {m : Mod}
    (hn : (n == app'.name) = false) (h : (buildWorld b builder app').lookup n = some m) :
    ∃ pre cx post md, b.chainCtx builder = pre ++ cx :: post ∧ cx.module? n = some md ∧
      md.toMod = m ∧ ∀ cy ∈ pre, cy.module? n = none := by
  simp only [buildWorld, hn, Bool.false_eq_true, if_false, Option.map_eq_some_iff] at h
  obtain ⟨md, hmd, e⟩ := h
  obtain ⟨pre, cx, post, h1, h2, h3⟩ := shadow hmd
  exact ⟨pre, cx, post, md, h1, h2, e, h3⟩

/-- the shadow filter of `merge_provides`: a provider `q` of feature `f` survives in context `c`
    unless `c` defines a module named `q` that does not provide `f` -/
def keeps (c : Context) (f : Name) (q : Name) : Bool :=
  match c.module? q with
  | some m => (m.provides.getD []).contains f
  | none => true

theorem PTable.get_eq_lk (t : PTable) (f : Name) : t.get f = (C09.lk t f).getD [] := rfl

theorem get_filterProvided (c : Context) (t : PTable) (f : Name) :
    (c.filterProvided t).get f = (t.get f).filter (keeps c f) := by
  have h : C09.lk (c.filterProvided t) f = (C09.lk t f).map (·.filter (keeps c f)) :=
    C09.lk_map (fun k (v : List Name) => v.filter (keeps c k)) t f
  rw [PTable.get_eq_lk, PTable.get_eq_lk, h]
  cases C09.lk t f <;> rfl

theorem get_union (own parent : PTable) (f : Name) :
    (own.union parent).get f =
      if own.any (·.1 == f) then dedup (own.get f ++ parent.get f) else parent.get f := by
  rw [PTable.get_eq_lk, PTable.get_eq_lk own, PTable.union, C09.lk_append,
    C09.lk_map (fun k v => dedup (v ++ parent.get k)),
    C09.lk_filter (fun k => !own.any (·.1 == k)), ← C09.lk_isSome]
  cases C09.lk own f <;> rfl

/-- a feature with providers in the context itself: the context's own providers, then the
    inherited ones, without duplicates, minus the shadowed ones -/
theorem providers_own_first (c r : Context) (rest : List Context) (f : Name)
    (h : c.ownProvided.any (·.1 == f) = true) :
    (providedUp (c :: r :: rest)).get f =
      (dedup (c.ownProvided.get f ++ (providedUp (r :: rest)).get f)).filter (keeps c f) := by
  show (c.filterProvided (c.ownProvided.union (providedUp (r :: rest)))).get f = _
  rw [get_filterProvided, get_union, if_pos h]

/-- a feature without providers in the context itself: the inherited list minus the shadowed
    providers -/
theorem providers_inherited (c r : Context) (rest : List Context) (f : Name)
    (h : c.ownProvided.any (·.1 == f) = false) :
    (providedUp (c :: r :: rest)).get f = ((providedUp (r :: rest)).get f).filter (keeps c f) := by
  show (c.filterProvided (c.ownProvided.union (providedUp (r :: rest)))).get f = _
  rw [get_filterProvided, get_union, h]; rfl

/-- the root context: its own table -/
theorem providers_root (root : Context) (f : Name) :
    (providedUp [root]).get f = root.ownProvided.get f := rfl

/-- `dedup` keeps first occurrences: the deduplicated own list is a prefix (nearest context
    first) -/
theorem dedup_append_prefix [BEq α] (a b : List α) : ∃ l, dedup (a ++ b) = dedup a ++ l := by
  rw [dedup_append]; exact (prefix_foldl_setAdd b _).imp fun _ h => h.symm

/-! ## a concrete rollback, on both levels -/

namespace Example

def mk (name : Name) (selects : List Dep) (conflicts : List Name := []) : Mod :=
  { name := name, selects := selects, conflicts := conflicts, provides := [] }

def app : Mod := mk "app" [.soft "x", .hard "y", .ifHard "q" "z"]
def mods : List Mod :=
  [app, mk "x" [.hard "z", .hard "missing"], mk "y" [.hard "q"] ["x"], mk "q" [], mk "z" []]

def w : World := { lookup := fun n => mods.find? (·.name == n), providers := fun _ => [] }
def s0 : RState := ⟨[], [], [], []⟩

/-- `x` is entered, `z` is taken below it, `missing` fails: `x` and `z` are rolled back; then `y`
    (which conflicts with `x`), `q`, and `z` again via the `q`-conditional dependency -/
example : (resolveDeep w 5 app s0).toOption.map (·.sel) = some ["app", "y", "q", "z"] := by decide +kernel

example : resolveDeepI w 5 app ⟨s0, []⟩ =
    (true, ⟨⟨["app", "y", "q", "z"], [], [("x", some "y")], []⟩, []⟩) := by decide +kernel

example : resolveDeep w 5 app s0 = .ok (resolveDeepI w 5 app ⟨s0, []⟩).2.cur ∧
    (resolveDeepI w 5 app ⟨s0, []⟩).2.stack = [] := by decide +kernel

/-- the failing optional dependency `x` is invisible: same result without it -/
example : resolveDepsW w (resolveDeep w 4) [.soft "x", .hard "y"] s0 =
    resolveDepsW w (resolveDeep w 4) [.hard "y"] s0 := by decide +kernel

/-- the rollback inside: resolving `x` alone fails and the machine is restored, stack included -/
example : resolveDeepI w 4 (mk "x" [.hard "z", .hard "missing"]) ⟨s0, [s0]⟩ = (false, ⟨s0, [s0]⟩) := by
  decide +kernel

end Example

end Laze.C12
