import LazeModel.Theorems.C08
/-! C08 — runs with the cache disabled (`--info-export` sets `disable_cache`): `try_from` refuses whatever the cache file says; the
    rest of `execute` is the ordinary cache-missing run. In the transition system that is a `start` event in a state where `hit`
    may hold — covered by `inv_next` like every other event. What such a run leaves on the disk is `runNoCache_disk` (C08.lean);
    here: the invariant survives it, and the record of an earlier run with other arguments does not. -/
namespace Laze.C08
open Laze Laze.Cache

theorem stepsUntil_inv (p : Proc → Bool) : ∀ (n : Nat) (t : State), Inv t → Inv (stepsUntil p n t) := by
  intro n
  induction n with
  | zero => intro t ht; exact ht
  | succ n ih =>
    intro t ht
    unfold stepsUntil
    split
    · exact ht
    · exact ih _ (inv_next t .step ht)

/-- a cache-disabled run is a sequence of `start`/`step` events -/
theorem runNoCache_inv (s : State) (inv : Inv s) (k : Key) (files : List File) : Inv (runNoCache s k files).1 := by
  unfold runNoCache
  exact stepsUntil_inv _ _ _ (inv_next s _ inv)

/-- **no stale record after a cache-disabled run**: whatever record was on the disk before, after a complete `--info-export` run
    with key `k` a request `k'` is served from the cache only if `k` itself vouches for it (`keyValid k k'`): the record of an
    earlier run with other `--define`, `--select`, `--disable`, `--partition` or mode does not survive next to the rewritten ninja file -/
theorem nocache_run_replaces_record (s : State) (k k' : Key) (files : List File) (hi : s.proc = .idle)
    (h : hit (runNoCache s k files).1 k' = true) : keyValid k k' = true :=
  hit_after_run s k k' files hi ▸ h

/-- and what is then served is the file this run wrote -/
theorem nocache_run_then_hit_is_its_own_file (s : State) (k k' : Key) (files : List File) (hi : s.proc = .idle)
    (_h : hit (runNoCache s k files).1 k' = true) :
    (runNoCache s k files).1.ninja = .complete (files.map (fun f => (f, s.tree.ver f))) k := by
  rw [runNoCache_disk s k files hi]

/-- the pre-repair shape seeded as `C08-nocache-run-keeps-cache`: a cache-disabled run that neither removes the old record nor
    writes a new one leaves `record k₀` next to a ninja file generated for `k`: `hit` then vouches for a file it does not describe -/
def runNoCacheKeeping (s : State) (k : Key) (files : List File) : State :=
  { s with ninja := .complete (files.map (fun f => (f, s.tree.ver f))) k }

theorem hit_keeping (s : State) (k k₀ : Key) (files : List File) : hit (runNoCacheKeeping s k files) k₀ = hit s k₀ := rfl

theorem keeping_violates_hit_sound :
    ∃ (s : State) (k k₀ : Key) (files : List File), s.proc = .idle ∧ Inv s ∧ hit s k₀ = true ∧
      hit (runNoCacheKeeping s k files) k₀ = true ∧
      (runNoCacheKeeping s k files).ninja ≠ s.ninja ∧ ¬ keyValid k k₀ = true := by
  have e := run_never init k1 ["a"] rfl rfl
  have hh : hit (run init k1 ["a"] .never).1 k1 = true := (rerun_is_hit init k1 ["a"] rfl rfl).1
  refine ⟨(run init k1 ["a"] .never).1, k2, k1, ["a"], ?_, run_of_miss (s := init) (k := k1) rfl ["a"] ▸ runNoCache_inv init inv_init k1 ["a"], hh, ?_, ?_, ?_⟩
  · rw [e]
  · rw [hit_keeping]; exact hh
  · rw [e]; decide
  · decide

end Laze.C08
