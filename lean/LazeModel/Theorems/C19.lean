import LazeModel.Lemmas.Path
import LazeModel.Theorems.C17
import LazeModel.Lemmas.GenSpec
import LazeModel.Theorems.C19_order
/-! # C19 — build dependencies

"Every compile statement of a module that uses/depends (transitively) on a selected module marked
`is_build_dep` (downloaded modules always are) lists that module's download tag file, declared
build-dep files and custom build outputs as order-only dependencies, and the outputs of
`is_global_build_dep` modules are order-only dependencies of every other module's compile statements
and of the link. Sources inside a download directory are declared as produced by the download step,
and a cycle among build dependencies drops the build instead of emitting it." -/
namespace Laze.C19
open Laze
/-! ## `effBuildDeps`: the global build deps come first -/

theorem effBuildDeps_mem {globals : List Name} {m : Module} {bdeps : Option (List Name)}
    (hg : globals ≠ []) (hm : m.isGlobalBuildDep = false) (d : Name) :
    d ∈ (effBuildDeps globals m bdeps).getD [] ↔ d ∈ globals ∨ d ∈ bdeps.getD [] := by
  unfold effBuildDeps
  have : globals.isEmpty = false := by cases globals with | nil => exact absurd rfl hg | cons _ _ => rfl
  simp only [this, hm, Bool.not_false, Bool.and_self, if_true, Option.getD_some, mem_dedup, List.mem_append]

theorem effBuildDeps_bdeps (globals : List Name) (m : Module) (bdeps : Option (List Name)) :
    bdeps.getD [] ⊆ (effBuildDeps globals m bdeps).getD [] := by
  intro d hd
  unfold effBuildDeps
  split
  · simp only [Option.getD_some, mem_dedup, List.mem_append]; exact Or.inr hd
  · exact hd

/-- a global build dep itself (or a build without global build deps) only has its imported ones -/
theorem effBuildDeps_global (globals : List Name) (m : Module) (bdeps : Option (List Name))
    (h : globals = [] ∨ m.isGlobalBuildDep = true) : effBuildDeps globals m bdeps = bdeps := by
  unfold effBuildDeps
  cases h with
  | inl h => subst h; simp
  | inr h => simp [h]

example : effBuildDeps ["g"] { name := "m", contextName := "c" } (some ["d"]) = some ["g", "d"] := by decide +kernel

/-! ## the order-only dependencies of compile statements -/

theorem importedDepFiles_mem {files : FileTable} {deps : List Name} {acc l : List String}
    (h : importedDepFiles files deps acc = .ok l) (f : String) :
    f ∈ l ↔ f ∈ acc ∨ ∃ d ∈ deps, f ∈ (files.get? d).getD [] := by
  rw [importedDepFiles_eq] at h
  cases h
  refine foldl_or_iff (P := (f ∈ ·)) (fun acc d => ?_) deps acc
  -- a dep without an entry in the table is skipped: it contributes `(none).getD [] = []`
  cases files.get? d with
  | none => simp
  | some fs => simp [mem_dedup]

/-- the optional version used by `moduleStmts`: it cannot fail either -/
theorem importedOf_eq (files : FileTable) (deps : Option (List Name)) :
    importedOf files deps =
      .ok (deps.map fun l => l.foldl (fun acc d => (files.get? d).elim acc fun fs => dedup (acc ++ fs)) []) := by
  cases deps with
  | none => rfl
  | some l => exact congrArg (Except.map some) (importedDepFiles_eq files l [])

/-- a dep without an entry in the table has `(files.get? d).getD [] = []`: it contributes nothing (`importedDepFiles_spec'`
    has the explicit form) -/
theorem importedDepFiles_spec {files : FileTable} {deps : List Name} {acc l : List String}
    (h : importedDepFiles files deps acc = .ok l) :
    acc ⊆ l ∧ (∀ d ∈ deps, ∀ f ∈ (files.get? d).getD [], f ∈ l) ∧
      ∀ f ∈ l, f ∈ acc ∨ ∃ d ∈ deps, f ∈ (files.get? d).getD [] :=
  ⟨fun f hf => (importedDepFiles_mem h f).2 (Or.inl hf),
   fun d hd f hf => (importedDepFiles_mem h f).2 (Or.inr ⟨d, hd, hf⟩),
   fun f hf => (importedDepFiles_mem h f).1 hf⟩

/-- the same with the table entries explicit -/
theorem importedDepFiles_spec' {files : FileTable} {deps : List Name} {acc l : List String}
    (h : importedDepFiles files deps acc = .ok l) :
    acc ⊆ l ∧ (∀ d ∈ deps, ∀ fs, files.get? d = some fs → fs ⊆ l) ∧
      ∀ f ∈ l, f ∈ acc ∨ ∃ d ∈ deps, ∃ fs, files.get? d = some fs ∧ f ∈ fs := by
  obtain ⟨h1, h2, h3⟩ := importedDepFiles_spec h
  refine ⟨h1, fun d hd fs hfs f hf => h2 d hd f (by rw [hfs]; exact hf), fun f hf => ?_⟩
  rcases h3 f hf with h' | ⟨d, hd, hf'⟩
  · exact Or.inl h'
  · cases hg : files.get? d with
    | none => rw [hg] at hf'; cases hf'
    | some fs => rw [hg] at hf'; exact Or.inr ⟨d, hd, fs, hg, hf'⟩

example : importedDepFiles [("d", ["t1", "t2"]), ("g", ["t2", "o"])] ["g", "d"] [] = .ok ["t2", "o", "t1"] := by
  decide +kernel

/-- a dep without an entry ("plain") is skipped -/
example : importedDepFiles [("d", ["t1", "t2"]), ("g", ["t2", "o"])] ["g", "plain", "d"] ["a"] =
    .ok ["a", "t2", "o", "t1"] := by
  decide +kernel

theorem importedOf_mem {files : FileTable} {deps : Option (List Name)} {imported : Option (List String)}
    (h : importedOf files deps = .ok imported) (f : String) :
    f ∈ imported.getD [] ↔ ∃ d ∈ deps.getD [], f ∈ (files.get? d).getD [] := by
  rw [importedOf_eq] at h
  cases h
  cases deps with
  | none => simp
  | some l => simpa using importedDepFiles_mem (importedDepFiles_eq files l []) f

theorem importedOf_isSome {files : FileTable} {deps : Option (List Name)} {imported : Option (List String)}
    (h : importedOf files deps = .ok imported) : imported.isSome = deps.isSome := by
  rw [importedOf_eq] at h
  cases h
  exact Option.isSome_map

theorem getD_nonEmpty? (l : List String) : (nonEmpty? l).getD [] = l := by cases l <;> rfl

theorem combinedDeps_eq (imported localDeps : Option (List String)) :
    combinedDeps imported localDeps = nonEmpty? (imported.getD [] ++ localDeps.getD []) := rfl

theorem mem_combinedDeps (imported localDeps : Option (List String)) (f : String) :
    f ∈ (combinedDeps imported localDeps).getD [] ↔ f ∈ imported.getD [] ∨ f ∈ localDeps.getD [] := by
  rw [combinedDeps_eq, getD_nonEmpty?, List.mem_append]

/-- an empty list of build-dep files is no list: `none` exactly when there is nothing to wait for -/
theorem combinedDeps_isSome (imported localDeps : Option (List String)) :
    (combinedDeps imported localDeps).isSome = !(imported.getD [] ++ localDeps.getD []).isEmpty := by
  rw [combinedDeps_eq]
  cases imported.getD [] ++ localDeps.getD [] <;> rfl

theorem buildFromRule_deps (nr : NinjaRule) (inputs : Option (List String)) (outs : List String)
    (c : Option (List String)) : (buildFromRule nr inputs outs c).deps = c.map pathSort := rfl

theorem buildFromRule_deps_some (nr : NinjaRule) (srcpath obj : String) (c : List String) :
    (buildFromRule nr (some [srcpath]) [obj] (some c)).deps = some (pathSort c) := rfl

theorem mem_buildFromRule_deps (nr : NinjaRule) (inputs : Option (List String)) (outs : List String)
    (c : Option (List String)) (f : String) :
    f ∈ (buildFromRule nr inputs outs c).deps.getD [] ↔ f ∈ c.getD [] := by
  rw [buildFromRule_deps]
  cases c with
  | none => simp
  | some l => simp [mem_pathSort]

/-- the `combined` list handed to `buildStep`, hence the order-only dependencies of every statement made from it -/
theorem moduleStmts_combined {ev st builder app r rules globals m bdeps srcdir flat} {ls ls' : LoopState}
    (h : moduleStmts ev st builder app r rules globals m bdeps srcdir flat ls = .ok ls') :
    ∃ (lt : LoopState × Option String) (combined : Option (List String)),
      buildStep ev st builder app.name rules flat m srcdir (effSources r m) combined lt.2
        (registerLocalDeps m lt.1) = .ok ls' ∧
      ∀ nr inputs outs f, f ∈ (buildFromRule nr inputs outs combined).deps.getD [] ↔
        (∃ d ∈ (effBuildDeps globals m bdeps).getD [], f ∈ (ls.files.get? d).getD []) ∨
          f ∈ m.buildDepFiles.getD [] := by
  obtain ⟨lt, imported, hlt, himp, hbs⟩ := moduleStmts_ok h
  refine ⟨lt, _, hbs, fun nr inputs outs f => ?_⟩
  rw [mem_buildFromRule_deps, mem_combinedDeps, importedOf_mem himp, (downloadStep_files hlt).1]

/-- every compile statement of a module (without a `build:` section) lists, as order-only
    dependencies, exactly the files registered for its effective build deps and its own build-dep
    files.  The statement is in the entries, its object among the objects. -/
theorem moduleStmts_compile_deps {ev st builder app r rules globals m bdeps srcdir flat} {ls ls' : LoopState}
    (h : moduleStmts ev st builder app r rules globals m bdeps srcdir flat ls = .ok ls')
    (hb : m.build = none) :
    ∀ s ∈ effSources r m, ∃ nr srcpath obj combined,
      expandSrcPath ev flat srcdir s = .ok srcpath ∧
      (buildFromRule nr (some [srcpath]) [obj] combined).render ∈ ls'.entries ∧
      obj ∈ ls'.objects ∧
      ∀ f, f ∈ (buildFromRule nr (some [srcpath]) [obj] combined).deps.getD [] ↔
        (∃ d ∈ (effBuildDeps globals m bdeps).getD [], f ∈ (ls.files.get? d).getD []) ∨
          f ∈ m.buildDepFiles.getD [] := by
  obtain ⟨lt, combined, hbs, hmem⟩ := moduleStmts_combined h
  rw [buildStep_default hb] at hbs
  obtain ⟨mrules, hsrc⟩ := defaultBuildStep_mem hbs
  intro s hs
  obtain ⟨os, hos, hsub, hobj⟩ := hsrc s hs
  obtain ⟨srcpath, _, _, nr, _, hsp, _, _, _, _, _, hshape⟩ := compileSource_ok hos
  exact ⟨nr, srcpath, os.1, combined, hsp, hsub (by rw [hshape]; exact List.mem_cons_self), hobj, hmem _ _ _⟩

/-! ## what a module registers in the file table -/

def FilesLe (t t' : FileTable) : Prop := ∀ n f, f ∈ t.getD n → f ∈ t'.getD n

theorem FilesLe.extend (t : FileTable) (n : Name) (l : List String) : FilesLe t (t.extend n l) :=
  fun _ _ hf => FileTable.mem_getD_extend.2 (.inl hf)

theorem registerLocalDeps_mem (m : Module) (ls : LoopState) (l : List String) (h : m.buildDepFiles = some l) :
    l ⊆ (registerLocalDeps m ls).files.getD m.name := by
  unfold registerLocalDeps
  rw [h]
  exact fun f hf => FileTable.mem_getD_extend.2 (.inr ⟨rfl, hf⟩)

/-- a custom-build module registers the alias of its outputs under its name and emits the alias statement
    (`build outs_<hash>: phony <outs>`) -/
theorem customBuildStep_registers {ev flat m srcdir sources combined cb} {ls ls' : LoopState}
    (h : customBuildStep ev flat m srcdir sources combined cb ls = .ok ls') :
    ∃ cmd srcs outs, (cb.out.getD []).mapM (customOut ev flat) = .ok outs ∧
      outsAlias outs ∈ ls'.files.getD m.name ∧
      ninjaAliasMultiple outs (outsAlias outs) ∈ ls'.entries ∧
      (buildFromRule (customRule cb cmd) (some srcs) (pathSort outs) combined).render ∈ ls'.entries := by
  obtain ⟨_, cmd, srcs, outs, _, _, _, houts, rfl⟩ := customBuildStep_ok h
  -- reduce the projections of the new state here: left to the unifier, it unfolds `addEntries` first
  dsimp only
  exact ⟨cmd, srcs, outs, houts, FileTable.mem_getD_extend.2 (.inr ⟨rfl, List.mem_cons_self⟩),
    mem_addEntries.2 (.inr (.tail _ (.tail _ (.head _)))), mem_addEntries.2 (.inr (.tail _ (.head _)))⟩

/-- after `moduleStmts`, the module's own `buildDepFiles` are registered under its name -/
theorem moduleStmts_registers_local {ev st builder app r rules globals m bdeps srcdir flat} {ls ls' : LoopState}
    (h : moduleStmts ev st builder app r rules globals m bdeps srcdir flat ls = .ok ls')
    {l : List String} (hl : m.buildDepFiles = some l) : l ⊆ ls'.files.getD m.name := by
  obtain ⟨lt, imported, _, _, hbs⟩ := moduleStmts_ok h
  exact fun f hf => (buildStep_le hbs).files _ _ (registerLocalDeps_mem m lt.1 l hl hf)

/-- after `moduleStmts` of a custom-build module, the alias of its (expanded) outputs is
    registered under its name -/
theorem moduleStmts_registers_outs {ev st builder app r rules globals m bdeps srcdir flat} {ls ls' : LoopState}
    (h : moduleStmts ev st builder app r rules globals m bdeps srcdir flat ls = .ok ls')
    {cb : CustomBuild} (hb : m.build = some cb) :
    ∃ outs, (cb.out.getD []).mapM (customOut ev flat) = .ok outs ∧
      outsAlias outs ∈ ls'.files.getD m.name ∧ ninjaAliasMultiple outs (outsAlias outs) ∈ ls'.entries := by
  obtain ⟨lt, imported, _, _, hbs⟩ := moduleStmts_ok h
  rw [buildStep_custom hb] at hbs
  obtain ⟨_, _, outs, houts, hmem, halias, _⟩ := customBuildStep_registers hbs
  exact ⟨outs, houts, hmem, halias⟩

/-- the build statement of a custom-build module lists the same order-only dependencies -/
theorem moduleStmts_custom_deps {ev st builder app r rules globals m bdeps srcdir flat} {ls ls' : LoopState}
    (h : moduleStmts ev st builder app r rules globals m bdeps srcdir flat ls = .ok ls')
    {cb : CustomBuild} (hb : m.build = some cb) :
    ∃ nr srcs outs combined,
      (buildFromRule nr (some srcs) outs combined).render ∈ ls'.entries ∧
      ∀ f, f ∈ (buildFromRule nr (some srcs) outs combined).deps.getD [] ↔
        (∃ d ∈ (effBuildDeps globals m bdeps).getD [], f ∈ (ls.files.get? d).getD []) ∨
          f ∈ m.buildDepFiles.getD [] := by
  obtain ⟨lt, combined, hbs, hmem⟩ := moduleStmts_combined h
  rw [buildStep_custom hb] at hbs
  obtain ⟨cmd, srcs, outs, _, _, _, hstmt⟩ := customBuildStep_registers hbs
  exact ⟨customRule cb cmd, srcs, pathSort outs, combined, hstmt, hmem _ _ _⟩

/-! ### sources inside a download directory -/

/-- a downloading module registers its source directory with its tag file -/
theorem downloadStep_registers {ev m srcdir rules flat} {ls : LoopState} {lt : LoopState × Option String}
    {d : Download} (hd : m.download = some d)
    (h : downloadStep ev m srcdir rules flat ls = .ok lt) :
    lt.1.downloadDirs = insertKeyed ls.downloadDirs srcdir (d.tagfile srcdir) ∧ lt.2 = none ∧
      ∃ es, downloadEntries ev m d rules flat = .ok es ∧ ∀ e ∈ es, e ∈ lt.1.entries := by
  rcases downloadStep_ok h with ⟨d', es, hd', hes, rfl⟩ | ⟨_, hd', _⟩
  · cases hd.symm.trans hd'
    exact ⟨rfl, rfl, es, hes, fun e he => mem_addEntries.2 (.inr he)⟩
  · cases hd.symm.trans hd'

/-- a source of a module without own build-dep files whose source directory lies inside a
    download directory is declared as produced by the download step: `build <src>: phony <tagfile>` -/
theorem compileSource_tag_alias {ev st builder appName rules mrules flat srcdir combined s tag}
    {os : String × List String}
    (h : compileSource ev st builder appName rules mrules flat srcdir combined none (some tag) s = .ok os) :
    ∃ srcpath, expandSrcPath ev flat srcdir s = .ok srcpath ∧ ninjaAlias tag srcpath ∈ os.2 := by
  obtain ⟨srcpath, _, _, _, _, hsp, _, _, _, _, _, hshape⟩ := compileSource_ok h
  exact ⟨srcpath, hsp, by rw [hshape]; exact .tail _ (.head _)⟩

/-- with own build-dep files, the source is instead made to depend on those (which, for a downloading
    module, contain the tag file) -/
theorem compileSource_local_phony {ev st builder appName rules mrules flat srcdir combined srcTagfile s l}
    {os : String × List String}
    (h : compileSource ev st builder appName rules mrules flat srcdir combined (some l) srcTagfile s = .ok os) :
    ∃ srcpath, expandSrcPath ev flat srcdir s = .ok srcpath ∧
      ({ rule := "phony", outs := [srcpath], deps := some (pathSort l) } : NinjaBuild).render ∈ os.2 := by
  obtain ⟨srcpath, _, _, _, _, hsp, _, _, _, _, _, hshape⟩ := compileSource_ok h
  exact ⟨srcpath, hsp, by rw [hshape]; exact .tail _ (.head _)⟩

/-- end to end for one module: every source of a non-downloading default-build module without own
    build-dep files whose source directory is inside a registered download directory gets the alias -/
theorem moduleStmts_tag_alias {ev st builder app r rules globals m bdeps srcdir flat} {ls ls' : LoopState}
    (h : moduleStmts ev st builder app r rules globals m bdeps srcdir flat ls = .ok ls')
    (hb : m.build = none) (hd : m.download = none) (hl : m.buildDepFiles = none)
    {sd tag : String} (hsd : unwrapX "generate.rs:srcdir" (expandEvalS ev flat .ignore srcdir) = .ok sd)
    (htag : containingPath ls.downloadDirs sd = some tag) :
    ∀ s ∈ effSources r m, ∃ srcpath, expandSrcPath ev flat srcdir s = .ok srcpath ∧
      ninjaAlias tag srcpath ∈ ls'.entries := by
  obtain ⟨lt, imported, hlt, _, hbs⟩ := moduleStmts_ok h
  rcases downloadStep_ok hlt with ⟨_, _, hd', _⟩ | ⟨sd', _, hsd', rfl⟩
  · cases hd.symm.trans hd'
  cases hsd.symm.trans hsd'
  rw [buildStep_default hb, hl, htag] at hbs
  obtain ⟨mrules, hsrc⟩ := defaultBuildStep_mem hbs
  intro s hs
  obtain ⟨os, hos, hsub, _⟩ := hsrc s hs
  obtain ⟨srcpath, hsp, hmem⟩ := compileSource_tag_alias hos
  exact ⟨srcpath, hsp, hsub hmem⟩

/-! ## global build deps at the link -/

theorem mem_globalDepFiles (globals : List Name) (files : FileTable) (f : String) :
    f ∈ (globalDepFiles globals files).getD [] ↔ ∃ g ∈ globals, f ∈ files.getD g := by
  unfold globalDepFiles
  rw [getD_nonEmpty?, mem_dedup, List.mem_flatMap]

/-- the link statement is emitted and lists, as order-only dependencies, exactly the files
    registered for the global build deps -/
theorem linkStep_global_deps {ev rules gflat globals outfile} {ls : LoopState} {entries : List String}
    (h : linkStep ev rules gflat globals outfile ls = .ok entries) :
    ∃ linkRule deps,
      (buildFromRule linkRule (some ls.objects) [outfile] deps).render ∈ entries ∧
      deps = globalDepFiles globals ls.files ∧
      ∀ f, f ∈ (buildFromRule linkRule (some ls.objects) [outfile] deps).deps.getD [] ↔
        ∃ g ∈ globals, f ∈ ls.files.getD g := by
  obtain ⟨_, linkRule, _, _, rfl⟩ := linkStep_ok h
  refine ⟨linkRule, _, mem_addEntries.2 (.inr (.tail _ (.head _))), rfl, fun f => ?_⟩
  rw [mem_buildFromRule_deps, mem_globalDepFiles]

/-! ## end to end through the module loop

In the loop over the build order, a module that is processed after one of its (effective) build deps lists that
dep's registered files in every compile statement. -/

theorem moduleStep_spec {ev st builder app r rules opts globals m menv bdeps} {ls : LoopState}
    {lf : LoopState × Option (Name × Flat)} {srcdir : String} (hs : m.srcdir = some srcdir)
    (h : moduleStep ev st builder app r rules opts globals m menv bdeps ls = .ok lf) :
    ∃ flat, moduleFlat opts menv = .ok flat ∧
      moduleStmts ev st builder app r rules globals m bdeps srcdir flat ls = .ok lf.1 := by
  rcases moduleStep_ok h with ⟨hs', _⟩ | ⟨_, flat, hs', hflat, hst, _⟩
  · cases hs.symm.trans hs'
  · cases hs.symm.trans hs'
    exact ⟨flat, hflat, hst⟩

theorem find?_menv {menvs : List ModEnv} {n : Name} {me : ModEnv} (h : menvs.find? (·.1.name == n) = some me) :
    me.1.name = n ∧ ModEnv.deps me ∈ menvs.map ModEnv.deps :=
  ⟨C09.find?_key (key := fun me : ModEnv => me.1.name) h, List.mem_map_of_mem (List.mem_of_find?_eq_some h)⟩

theorem modulesLoop_registers
    {ev st builder app r rules opts globals menvs} {order : List Name} {ls0 : LoopState}
    {mf0 : List (Name × Flat)} {res : LoopState × List (Name × Flat)}
    (hloop : modulesLoop ev st builder app r rules opts globals menvs order ls0 mf0 = .ok res)
    {d : Name} {de : ModEnv} (hd : d ∈ order) (hde : menvs.find? (·.1.name == d) = some de)
    {dsrcdir : String} (hdsrc : de.1.srcdir = some dsrcdir) :
    (∀ l, de.1.buildDepFiles = some l → l ⊆ res.1.files.getD d) ∧
    (∀ cb, de.1.build = some cb → ∃ outs, outsAlias outs ∈ res.1.files.getD d ∧
       ninjaAliasMultiple outs (outsAlias outs) ∈ res.1.entries) := by
  obtain ⟨pre, post, rfl⟩ := List.append_of_mem hd
  obtain ⟨mid, _, hloop⟩ := modulesLoop_append_ok hloop
  obtain ⟨de', lfd, hde', hdstep, hdpost⟩ := modulesLoop_cons_ok hloop
  cases hde.symm.trans hde'
  cases (find?_menv hde).1
  obtain ⟨dflat, _, hdstmts⟩ := moduleStep_spec hdsrc hdstep
  have hle := modulesLoop_le hdpost
  constructor
  · exact fun l hl f hf => hle.files _ _ (moduleStmts_registers_local hdstmts hl hf)
  · intro cb hcb
    obtain ⟨outs, _, hreg, halias⟩ := moduleStmts_registers_outs hdstmts hcb
    exact ⟨outs, hle.files _ _ hreg, hle.subset halias⟩

theorem modulesLoop_compile_lists_dep_files
    {ev st builder app r rules opts globals menvs} {order : List Name} {ls0 : LoopState}
    {mf0 : List (Name × Flat)} {res : LoopState × List (Name × Flat)}
    (hloop : modulesLoop ev st builder app r rules opts globals menvs order ls0 mf0 = .ok res)
    {es : List String} (hsub : res.1.entries ⊆ es) {n d : Name} {me de : ModEnv}
    (hme : menvs.find? (·.1.name == n) = some me) (hde : menvs.find? (·.1.name == d) = some de)
    (hbefore : Before order d n)
    (hdep : d ∈ (effBuildDeps globals me.1 me.2.2).getD [])
    {srcdir dsrcdir : String} (hsrc : me.1.srcdir = some srcdir) (hb : me.1.build = none)
    (hdsrc : de.1.srcdir = some dsrcdir) :
    ∃ flat, moduleFlat opts me.2.1 = .ok flat ∧
      ∀ s ∈ effSources r me.1, ∃ nr srcpath obj combined,
        expandSrcPath ev flat srcdir s = .ok srcpath ∧
        (buildFromRule nr (some [srcpath]) [obj] combined).render ∈ es ∧
        (∀ l, de.1.buildDepFiles = some l →
           ∀ f ∈ l, f ∈ (buildFromRule nr (some [srcpath]) [obj] combined).deps.getD []) ∧
        (∀ cb, de.1.build = some cb → ∃ outs,
           outsAlias outs ∈ (buildFromRule nr (some [srcpath]) [obj] combined).deps.getD [] ∧
           ninjaAliasMultiple outs (outsAlias outs) ∈ es) := by
  obtain ⟨pre, post, rfl, hdpre⟩ := hbefore
  obtain ⟨mid, hpre, hloop⟩ := modulesLoop_append_ok hloop
  obtain ⟨me', lf, hme', hstep, hpost⟩ := modulesLoop_cons_ok hloop
  cases hme.symm.trans hme'
  obtain ⟨flat, hflat, hstmts⟩ := moduleStep_spec hsrc hstep
  -- the build dep was processed in the first part of the loop: its files are registered when `n` is reached
  obtain ⟨hreg1, hreg2⟩ := modulesLoop_registers hpre hdpre hde hdsrc
  have hle := modulesLoop_le hpost
  refine ⟨flat, hflat, fun s hs => ?_⟩
  obtain ⟨nr, srcpath, obj, combined, hsp, hmem, _, hdeps⟩ := moduleStmts_compile_deps hstmts hb s hs
  refine ⟨nr, srcpath, obj, combined, hsp, hsub (hle.subset hmem), ?_, ?_⟩
  · exact fun l hl f hf => (hdeps f).2 (.inl ⟨d, hdep, hreg1 l hl hf⟩)
  · intro cb hcb
    obtain ⟨outs, hreg, halias⟩ := hreg2 cb hcb
    exact ⟨outs, (hdeps _).2 (.inl ⟨d, hdep, hreg⟩), hsub (((moduleStmts_le hstmts).trans hle).subset halias)⟩

/-! ### … and through `configureOrdered` -/

theorem configureOrdered_steps {ev st b builder app r rules opts gflat outfile} {menvs : List ModEnv}
    {i : BuildInfo}
    (h : configureOrdered ev st b builder app r rules opts gflat outfile menvs = .ok (.build i)) :
    ∃ order lm entries1, buildOrder (menvs.map ModEnv.deps) = some order ∧
      modulesLoop ev st builder app r rules opts (globalBuildDeps r) menvs order {} [] = .ok lm ∧
      linkStep ev rules gflat (globalBuildDeps r) outfile lm.1 = .ok entries1 ∧
      lm.1.entries ⊆ i.entries ∧ entries1 ⊆ i.entries := by
  obtain ⟨order, ls, mflats, hbo, hlm, hfin⟩ := configureOrdered_build h
  obtain ⟨entries1, eo, _, hlink, hpost, _, rfl⟩ := finishBuild_ok hfin
  obtain ⟨l, hl⟩ := postLinkStep_adds hpost
  obtain ⟨_, _, _, _, he⟩ := linkStep_ok hlink
  have h1 : entries1 ⊆ eo.1 := hl ▸ (prefix_addEntries _ _).subset
  exact ⟨order, (ls, mflats), entries1, hbo, hlm, hlink, fun e hm => h1 (he ▸ (prefix_addEntries _ _).subset hm), h1⟩

theorem mem_globalBuildDeps {r : Resolved} {m : Module} (hm : m ∈ r.modules) (hg : m.isGlobalBuildDep = true) :
    m.name ∈ globalBuildDeps r :=
  List.mem_map_of_mem (List.mem_filter.2 ⟨hm, hg⟩)

/-- in a configured build, let `n` be a selected default-build module (with a source directory) and `d` a selected
    module (with a source directory) that is
    * one of `n`'s build-dep modules (by `buildEnv_bdeps`: an imported `is_build_dep` module), or
    * a global build dep while `n` is not.
    Then every source of `n` has a compile statement in the build's entries listing every declared
    build-dep file of `d` (a downloaded module's tag file is one) and the alias of `d`'s custom build
    outputs as order-only dependencies. -/
theorem configureOrdered_compile_lists_dep_files
    {ev st b builder app r rules opts gflat outfile} {menvs : List ModEnv} {i : BuildInfo}
    (h : configureOrdered ev st b builder app r rules opts gflat outfile menvs = .ok (.build i))
    {n d : Name} {me de : ModEnv}
    (hme : menvs.find? (·.1.name == n) = some me) (hde : menvs.find? (·.1.name == d) = some de)
    (hrn : isRealNode n = true) (hrd : isRealNode d = true)
    (hdep : d ∈ me.2.2.getD [] ∨
      (de.1.isGlobalBuildDep = true ∧ me.1.isGlobalBuildDep = false ∧ de.1 ∈ r.modules))
    {srcdir dsrcdir : String} (hsrc : me.1.srcdir = some srcdir) (hb : me.1.build = none)
    (hdsrc : de.1.srcdir = some dsrcdir) :
    ∃ flat, moduleFlat opts me.2.1 = .ok flat ∧
      ∀ s ∈ effSources r me.1, ∃ nr srcpath obj combined,
        expandSrcPath ev flat srcdir s = .ok srcpath ∧
        (buildFromRule nr (some [srcpath]) [obj] combined).render ∈ i.entries ∧
        (∀ l, de.1.buildDepFiles = some l →
           ∀ f ∈ l, f ∈ (buildFromRule nr (some [srcpath]) [obj] combined).deps.getD []) ∧
        (∀ cb, de.1.build = some cb → ∃ outs,
           outsAlias outs ∈ (buildFromRule nr (some [srcpath]) [obj] combined).deps.getD [] ∧
           ninjaAliasMultiple outs (outsAlias outs) ∈ i.entries) := by
  obtain ⟨order, lm, entries1, hbo, hlm, _, hsub, _⟩ := configureOrdered_steps h
  obtain ⟨hn, hmem_me⟩ := find?_menv hme
  obtain ⟨hd, hmem_de⟩ := find?_menv hde
  subst hn hd
  -- either way `d` is an effective build dep of `n` and comes before it in the build order
  have hdn : Before order de.1.name me.1.name ∧
      de.1.name ∈ (effBuildDeps (globalBuildDeps r) me.1 me.2.2).getD [] := by
    rcases hdep with hdep | ⟨hg, hm, hr⟩
    · exact ⟨buildOrder_dep_before hbo hmem_me hdep hrn hrd, effBuildDeps_bdeps _ _ _ hdep⟩
    · have hgl := mem_globalBuildDeps hr hg
      exact ⟨buildOrder_global_before hbo hmem_de hg hmem_me hm hrd hrn,
        (effBuildDeps_mem (List.ne_nil_of_mem hgl) hm _).2 (.inl hgl)⟩
  exact modulesLoop_compile_lists_dep_files hlm hsub hme hde hdn.1 hdn.2 hsrc hb hdsrc

/-- in a configured build, the link statement lists every declared build-dep file and the custom-build output
    alias of every (selected, non-context) global build dep -/
theorem configureOrdered_link_lists_global_dep_files
    {ev st b builder app r rules opts gflat outfile} {menvs : List ModEnv} {i : BuildInfo}
    (h : configureOrdered ev st b builder app r rules opts gflat outfile menvs = .ok (.build i))
    {d : Name} {de : ModEnv} (hde : menvs.find? (·.1.name == d) = some de)
    (hrd : isRealNode d = true) (hg : de.1.isGlobalBuildDep = true) (hr : de.1 ∈ r.modules)
    {dsrcdir : String} (hdsrc : de.1.srcdir = some dsrcdir) :
    ∃ linkRule objects deps,
      (buildFromRule linkRule (some objects) [outfile] deps).render ∈ i.entries ∧
      (∀ l, de.1.buildDepFiles = some l →
         ∀ f ∈ l, f ∈ (buildFromRule linkRule (some objects) [outfile] deps).deps.getD []) ∧
      (∀ cb, de.1.build = some cb → ∃ outs,
         outsAlias outs ∈ (buildFromRule linkRule (some objects) [outfile] deps).deps.getD []) := by
  obtain ⟨order, lm, entries1, hbo, hlm, hlink, _, hsub⟩ := configureOrdered_steps h
  obtain ⟨hd, hmem_de⟩ := find?_menv hde
  subst hd
  have hdo : de.1.name ∈ order :=
    ((buildOrder_nodup_mem hbo).2 _).2 ⟨hrd, .inl (List.mem_map_of_mem hmem_de)⟩
  have hgl := mem_globalBuildDeps hr hg
  obtain ⟨linkRule, deps, hmem, _, hdeps⟩ := linkStep_global_deps hlink
  obtain ⟨h1, h2⟩ := modulesLoop_registers hlm hdo hde hdsrc
  refine ⟨linkRule, lm.1.objects, deps, hsub hmem, fun l hl f hf => (hdeps f).2 ⟨_, hgl, h1 l hl hf⟩, fun cb hcb => ?_⟩
  obtain ⟨outs, hreg, _⟩ := h2 cb hcb
  exact ⟨outs, (hdeps _).2 ⟨_, hgl, hreg⟩⟩

/-! ## the loader: `download:` makes a module a build dep exporting its tag file -/

/-- a successfully converted module with a `download:` section is a build dep, and the tag file of its download
    directory is among its build-dep files (hence, by `moduleStmts_registers_local`, registered under its name and, by
    `configureOrdered_compile_lists_dep_files`, an order-only dependency of every dependent compile statement) -/
theorem convertModule_download {y context isBinary filename defaults buildDir} {m : Module} {d : Download}
    (h : convertModule y context isBinary filename defaults buildDir = .ok m) (hd : y.download = some d) :
    m.isBuildDep = true ∧ m.download = some d ∧
    d.tagfile (y.srcdir.getD (d.srcdir buildDir (relpathOf filename) m.name)) ∈ m.buildDepFiles.getD [] ∧
    m.srcdir = some (y.srcdir.getD (d.srcdir buildDir (relpathOf filename) m.name)) := by
  obtain ⟨selA, uses, deps, _, _, _, F⟩ := C17.convertModule_spec h
  rw [C17.convertStatic_eq] at F
  rw [F.isBuildDep, F.download, F.buildDepFiles, F.srcdir, F.name]
  dsimp only [C17.buildDepFilesOf, defaultSrcdir]
  rw [hd]
  exact ⟨rfl, rfl, mem_setAdd.2 (.inr rfl), rfl⟩

/-! ### (former FINDING C19-F2, fixed: 137176e) `download:` together with an explicit `srcdir:`

The download statement writes its tag file into the module's *effective* source directory (`downloadBuild … (m.srcdir.getD "")`,
as `download.rs` does with `module.srcdir`). Before the fix the tag file exported as a build-dep file was the one of the *default*
download directory (`data.rs`: `download.srcdir(build_dir, &m)`), so with `srcdir:` given every dependent — and the module's own
sources — waited for a file no statement produces (reported by C19's oracle `order:dep-file-without-producer` once the shape
`download_with_srcdir` was generated). Now the exported file is the produced one: -/

/-- exported = produced, for a plain download, whatever `srcdir:` says: the registered tag file is the one the
    download statement produces, the tag file of the module's source directory -/
theorem download_with_srcdir_consistent {y context isBinary filename defaults buildDir} {m : Module}
    {d : Download} (nr : NinjaRule) (vars : List (String × String))
    (h : convertModule y context isBinary filename defaults buildDir = .ok m) (hd : y.download = some d)
    (hp : d.patches = none) :
    (downloadBuild nr (m.srcdir.getD "") vars).outs = [d.tagfile (m.srcdir.getD "")] ∧
    d.tagfile (m.srcdir.getD "") ∈ m.buildDepFiles.getD [] := by
  obtain ⟨_, _, h3, h4⟩ := convertModule_download h hd
  refine ⟨?_, h4 ▸ h3⟩
  unfold Download.tagfile
  rw [hp]
  rfl

-- concrete instance (evaluated): the exported file is the produced one
#guard
  let d : Download := { url := "u", commit := some "c" }
  let y : YModule := { name := some "dl", download := some d, srcdir := some "elsewhere" }
  match convertModule y none false "laze-project.yml" none "build" with
  | .ok m =>
    m.buildDepFiles == some ["elsewhere/.laze-downloaded"] &&
    (downloadBuild { name := "GIT_DOWNLOAD", command := "" } (m.srcdir.getD "") []).outs
      == ["elsewhere/.laze-downloaded"]
  | .error _ => false

/-! ### (former FINDING C19-F1, fixed) a build dep that registers no files

A module marked `is_build_dep: true` (or `is_global_build_dep`) that has neither `build_dep_files`
nor a `build:` section nor a `download:` never gets an entry in `module_build_dep_files`; the lookup
`module_build_dep_files.get(&dep.name).unwrap()` of every dependent used to panic.  Such a dep is now skipped:
the loop cannot fail (`importedDepFiles_eq`, `importedOf_eq`), and below. -/

/-- deps without an entry in the file table contribute nothing: they can be filtered out first -/
theorem importedDepFiles_skip (files : FileTable) (deps : List Name) (acc : List String) :
    importedDepFiles files deps acc =
      importedDepFiles files (deps.filter (fun d => (files.get? d).isSome)) acc := by
  rw [importedDepFiles_eq, importedDepFiles_eq, List.foldl_filter]
  congr
  funext acc d
  cases files.get? d <;> rfl

/-- a default-build module without own build-dep files registers nothing … -/
theorem moduleStmts_registers_nothing {ev st builder app r rules globals m bdeps srcdir flat} {ls ls' : LoopState}
    (h : moduleStmts ev st builder app r rules globals m bdeps srcdir flat ls = .ok ls')
    (hb : m.build = none) (hl : m.buildDepFiles = none) : ls'.files = ls.files := by
  obtain ⟨lt, imported, hlt, _, hbs⟩ := moduleStmts_ok h
  rw [buildStep_default hb] at hbs
  obtain ⟨_, _, _, _, rfl⟩ := defaultBuildStep_ok hbs
  unfold registerLocalDeps
  rw [hl]
  exact (downloadStep_files hlt).1

/-- … and a module having an (effective) build dep without registered files no longer fails
    there: `moduleStmts` can only fail in its download step or its build step -/
theorem moduleStmts_error_cases {ev st builder app r rules globals m bdeps srcdir flat}
    {ls : LoopState} {e : GErr}
    (h : moduleStmts ev st builder app r rules globals m bdeps srcdir flat ls = .error e) :
    downloadStep ev m srcdir rules flat ls = .error e ∨
    ∃ lt imported, downloadStep ev m srcdir rules flat ls = .ok lt ∧
      importedOf lt.1.files (effBuildDeps globals m bdeps) = .ok imported ∧
      buildStep ev st builder app.name rules flat m srcdir (effSources r m)
        (combinedDeps imported m.buildDepFiles) lt.2 (registerLocalDeps m lt.1) = .error e := by
  revert h
  fun_cases moduleStmts ev st builder app r rules globals m bdeps srcdir flat ls with
  | case1 e' hdl => intro h; cases h; exact .inl hdl
  | case2 lt hlt e' himp => rw [importedOf_eq] at himp; cases himp
  | case3 lt hlt imported himp => exact fun h => .inr ⟨lt, imported, hlt, himp, h⟩

example : importedOf [] (some ["plain-build-dep"]) = .ok (some []) := by decide +kernel

/-! ## a concrete scenario -/

namespace Ex
/-! an app importing a downloaded module, plus a global build dep with a custom build -/

def ev0 : EvalExpr := fun _ => .error .expr
def dlMod : Module :=
  { name := "dl", contextName := "default", srcdir := some "build/dl/dl", isBuildDep := true, download := some { url := "u", commit := some "c" }, buildDepFiles := some ["build/dl/dl/.laze-downloaded"] }
def genMod : Module :=
  { name := "gen", contextName := "default", srcdir := some "gen", isGlobalBuildDep := true, build := some { cmd := ["touch gen.h"], out := some ["gen.h"] } }
def appMod : Module :=
  { name := "app", contextName := "default", srcdir := some "app", sources := ["main.c"], imports := [.hard "dl"] }
def r : Resolved := { modules := [appMod, dlMod, genMod], providers := [] }
def rules : List (String × Rule) :=
  [("c", { name := "CC", cmd := "cc ${in} -o ${out}", in_ := some "c", out := some "o" }),
   ("LINK", { name := "LINK", cmd := "ld ${in} -o ${out}" }),
   ("GIT_DOWNLOAD", { name := "GIT_DOWNLOAD", cmd := "git clone ${url} ${out}" })]
def bag : Bag := { contexts := [{ name := "default", parent := none }] }
def menvs : List ModEnv := [(appMod, [], some ["dl"]), (dlMod, [], none), (genMod, [], none)]
def mods : List (Module × Option (List Name)) := menvs.map ModEnv.deps

/-- `moduleEnvs_bdeps` on the scenario: `dl` is the one build dep of `app` -/
example : (moduleEnvs r [] r.modules).toOption.map (·.map (fun me => (me.1.name, me.2.2))) =
    some [("app", some ["dl"]), ("dl", none), ("gen", none)] := by decide +kernel

/-- there is a build order; the global build dep and the download come first -/
theorem order_eq : buildOrder mods = some ["gen", "dl", "app"] := by decide +kernel

example : (["gen", "dl", "app"] : List Name).Perm (mods.map (·.1.name)) :=
  buildOrder_perm order_eq (by decide +kernel) (by decide +kernel) (by decide +kernel)

example : Before ["gen", "dl", "app"] "dl" "app" :=
  buildOrder_dep_before order_eq (mb := (appMod, some ["dl"])) (.head _) (d := "dl") (by decide +kernel) (by decide +kernel)
    (by decide +kernel)

example : Before ["gen", "dl", "app"] "gen" "app" :=
  buildOrder_global_before order_eq (gb := (genMod, none)) (mb := (appMod, some ["dl"]))
    (.tail _ (.tail _ (.head _))) rfl (.head _) rfl (by decide +kernel) (by decide +kernel)

/-- the hypotheses of `bdep_cycle_no_order` on a 2-cycle -/
example : buildOrder [(({ name := "a", contextName := "c" } : Module), some ["b"]),
                      (({ name := "b", contextName := "c" } : Module), some ["a"])] = none :=
  bdep_cycle_no_order (x := "a")
    (.tail (.single ⟨_, .head _, rfl, by decide⟩) ⟨_, .tail _ (.head _), rfl, by decide⟩)

/-- the scenario is a configured build; the hypotheses of the two main theorems hold for
    `n = "app"` with `d = "dl"` (imported build dep) and `d = "gen"` (global build dep): the compile
    statement of `app/main.c` lists the download tag file and the alias of the generated outputs, the
    link statement lists the alias.  (Evaluated: string expansion does not reduce under `decide`.) -/
def hasSub (s sub : String) : Bool := (s.splitOn sub).length > 1

#guard
  match configureOrdered ev0 {} bag "default" appMod r rules none [] "out.elf" menvs with
  | .ok (.build i) =>
    (menvs.find? (·.1.name == "app")).isSome && (menvs.find? (·.1.name == "dl")).isSome &&
    i.entries.any (fun e => hasSub e "app/main.c" && hasSub e "| $\n    build/dl/dl/.laze-downloaded $\n    outs_") &&
    i.entries.any (fun e => hasSub e "build out.elf:" && hasSub e "| $\n    outs_") &&
    i.entries.any (fun e => hasSub e "build build/dl/dl/.laze-downloaded:")
  | _ => false

-- with a cycle the same configuration is dropped
#guard
  match configureOrdered ev0 {} bag "default" appMod r rules none [] "out.elf"
          [(appMod, [], some ["dl"]), (dlMod, [], some ["app"]), (genMod, [], none)] with
  | .ok (.noBuild .depCycle) => true
  | _ => false

end Ex

end Laze.C19
