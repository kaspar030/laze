import LazeModel.Model.Env
import LazeModel.Generated.Decisions
/-! # C04 — `EnvKey::merge`, regenerated from the source

"At every step a list merged onto a list appends; in every other combination the later value replaces the earlier one."
`translators/decisions.py` re-reads the nested `match` of `EnvKey::merge` on every run as rows (pattern of `self`, pattern of `other`,
result). `envKey_merge_is_model` proves that for EVERY pair of values the first matching row yields the model's `EnvKey.merge`, the
function `C09.merge_get`, `C09.foldl_merge_get`, `C09.merge_rules` and the layer theorems of C04 are stated about. -/
namespace Laze.C04m
open Laze Laze.Generated

def patMatches : MPat → EnvKey → Option Bool
  | .single, .single _ => some true
  | .single, .list _ => some false
  | .list, .list _ => some true
  | .list, .single _ => some false
  | .any, _ => some true
  | .unknown _, _ => none

def resValue (s o : EnvKey) : MRes → Option EnvKey
  | .other => some o
  | .self => some s
  | .appendLists => match s, o with
    | .list a, .list b => some (.list (a ++ b))
    | _, _ => none                       -- `self_values` / `other_values` are only bound in the list/list arm
  | .unknown _ => none

/-- first matching row; `none` when a row is not interpretable or no row matches (a Rust `match` must be exhaustive) -/
def interp (s o : EnvKey) : List (MPat × MPat × MRes) → Option EnvKey
  | [] => none
  | (ps, po, r) :: rest =>
    match patMatches ps s, patMatches po o with
    | some true, some true => resValue s o r
    | some _, some _ => interp s o rest
    | _, _ => none

/-- **translator obligation**: for every pair of values, today's `EnvKey::merge` computes the model's `EnvKey.merge` -/
theorem envKey_merge_is_model (s o : EnvKey) :
    envKeyMergeArms.bind (interp s o) = some (EnvKey.merge s o) := by
  cases s <;> cases o <;> simp [envKeyMergeArms, interp, patMatches, resValue, EnvKey.merge]

/-! non-vacuity: rows that replace instead of appending are not the model -/
example : interp (.list ["a"]) (.list ["b"]) [(.single, .any, .other), (.list, .any, .other)] ≠ some (EnvKey.merge (.list ["a"]) (.list ["b"])) := by
  decide +kernel
example : interp (.single "a") (.single "b") [(.unknown "x", .any, .other)] = none := by decide +kernel

end Laze.C04m
