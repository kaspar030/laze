import LazeModel.Model.Select
/-! C06 — the text-level outputs of a rendered statement are the statement's outputs (for plain output words) -/
namespace Laze.C06
open Laze

/-- a character that is neither the separator the check looks for nor a hash-token delimiter -/
def CPlain (c : Char) : Prop := c ≠ ':' ∧ c ≠ '\x01' ∧ c ≠ '\x02'
/-- … nor a space -/
def WPlain (c : Char) : Prop := CPlain c ∧ c ≠ ' '
/-- an output path the generator's path alphabet produces: not empty, no space, colon or token delimiter -/
def PlainWord (w : List Char) : Prop := w ≠ [] ∧ ∀ c ∈ w, WPlain c

theorem tokDepth_plain {c : Char} (h : CPlain c) : tokDepth 0 c = 0 := by
  obtain ⟨_, h1, h2⟩ := h
  simp [tokDepth, h1, h2]

theorem takeUntilColon_plain (w : List Char) (hw : ∀ c ∈ w, CPlain c) (R : List Char) :
    takeUntilColon 0 (w ++ R) = (takeUntilColon 0 R).map (w ++ ·) := by
  induction w with
  | nil => simp
  | cons c cs ih =>
    have hc := hw c (List.mem_cons_self)
    have hne : ¬ ((0 : Nat) == 0 && c == ':') = true := fun h => hc.1 (eq_of_beq (Bool.and_eq_true_iff.1 h).2)
    rw [List.cons_append, takeUntilColon, if_neg hne, tokDepth_plain hc, ih (fun x hx => hw x (List.mem_cons_of_mem _ hx))]
    cases takeUntilColon 0 R <;> simp

theorem takeUntilColon_colon (T : List Char) : takeUntilColon 0 (':' :: T) = some [] := by
  simp [takeUntilColon]

theorem splitSpaces_plain (w : List Char) (hw : ∀ c ∈ w, WPlain c) (cur R : List Char) :
    splitSpaces 0 cur (w ++ R) = splitSpaces 0 (w.reverse ++ cur) R := by
  induction w generalizing cur with
  | nil => simp
  | cons c cs ih =>
    have hc := hw c (List.mem_cons_self)
    have hne : ¬ ((0 : Nat) == 0 && c == ' ') = true := fun h => hc.2 (eq_of_beq (Bool.and_eq_true_iff.1 h).2)
    rw [List.cons_append, splitSpaces, if_neg hne, tokDepth_plain hc.1, ih (fun x hx => hw x (List.mem_cons_of_mem _ hx))]
    simp

theorem splitSpaces_words (ws : List (List Char)) (hws : ∀ w ∈ ws, PlainWord w) (cur : List Char) (hcur : cur ≠ []) :
    splitSpaces 0 cur (ws.flatMap (' ' :: ·)) = cur.reverse :: ws := by
  induction ws generalizing cur with
  | nil => simp [splitSpaces, hcur]
  | cons w ws ih =>
    obtain ⟨hwne, hwp⟩ := hws w (List.mem_cons_self)
    rw [List.flatMap_cons, List.cons_append, splitSpaces]
    simp only [beq_self_eq_true, Bool.and_self, if_true]
    rw [if_neg (by simpa using hcur), splitSpaces_plain w hwp, List.append_nil,
      ih (fun x hx => hws x (List.mem_cons_of_mem _ hx)) _ (by simpa using hwne)]
    simp

theorem cplain_words {ws : List (List Char)} (hws : ∀ w ∈ ws, PlainWord w) : ∀ c ∈ ws.flatMap (' ' :: ·), CPlain c := by
  intro c hc
  obtain ⟨w, hw, hcw⟩ := List.mem_flatMap.1 hc
  rcases List.mem_cons.1 hcw with rfl | hcw
  · unfold CPlain; decide
  · exact ((hws w hw).2 c hcw).1

theorem entryOuts_prefix {e : String} {rest : List Char} (he : e.toList = 'b' :: 'u' :: 'i' :: 'l' :: 'd' :: ' ' :: rest) :
    entryOuts e = ((takeUntilColon 0 rest).map fun outs => (splitSpaces 0 [] outs).map String.ofList).getD [] := by
  unfold entryOuts
  simp only [he]
  cases takeUntilColon 0 rest <;> rfl

theorem entryOuts_words {e : String} (ws : List (List Char)) (T : List Char) (hws : ∀ w ∈ ws, PlainWord w)
    (he : e.toList = 'b' :: 'u' :: 'i' :: 'l' :: 'd' :: (ws.flatMap (' ' :: ·) ++ ':' :: T)) :
    entryOuts e = ws.map String.ofList := by
  cases ws with
  | nil => unfold entryOuts; rw [he]; rfl
  | cons w ws =>
    obtain ⟨hne, hw⟩ := hws w List.mem_cons_self
    have hws' : ∀ x ∈ ws, PlainWord x := fun x hx => hws x (List.mem_cons_of_mem _ hx)
    have hplain : ∀ c ∈ w ++ ws.flatMap (' ' :: ·), CPlain c := fun c hc =>
      (List.mem_append.1 hc).elim (fun h => (hw c h).1) (cplain_words hws' c)
    rw [List.flatMap_cons, List.cons_append, List.cons_append] at he
    rw [entryOuts_prefix he, takeUntilColon_plain _ hplain, takeUntilColon_colon]
    simp only [Option.map_some, Option.getD_some, List.append_nil]
    rw [splitSpaces_plain w hw, List.append_nil, splitSpaces_words ws hws' _ (mt List.reverse_eq_nil_iff.1 hne),
      List.reverse_reverse]

/-- the text of a statement up to its colon: `build`, then every output after a space -/
theorem render_prefix (b : NinjaBuild) :
    ∃ T, b.render = "build" ++ (String.join (b.outs.map (" " ++ ·)) ++ (":" ++ T)) := by
  unfold NinjaBuild.render
  rw [show ": $\n    " = ":" ++ " $\n    " from by decide +kernel]
  simp only [String.append_assoc]
  exact ⟨_, rfl⟩

/-- **the check reads what the statement means**: for a statement whose outputs are plain words, the outputs the text names are
    the outputs of the statement -/
theorem entryOuts_build (b : NinjaBuild) (h : ∀ o ∈ b.outs, PlainWord o.toList) :
    entryOuts b.render = b.outs := by
  obtain ⟨T, hT⟩ := render_prefix b
  have he : b.render.toList =
      'b' :: 'u' :: 'i' :: 'l' :: 'd' :: ((b.outs.map String.toList).flatMap (' ' :: ·) ++ ':' :: T.toList) := by
    rw [hT]
    simp only [String.toList_append, String.toList_join, List.flatMap_map]
    rfl
  rw [entryOuts_words _ _ (fun w hw => by obtain ⟨x, hx, rfl⟩ := List.mem_map.1 hw; exact h x hx) he, List.map_map]
  exact (List.map_congr_left fun _ _ => String.ofList_toList).trans (List.map_id _)

/-- non-vacuity: the paths laze chooses are plain words -/
example : PlainWord "build/objects/src/a.1234567890.o".toList := by
  unfold PlainWord WPlain CPlain; decide +kernel

end Laze.C06
