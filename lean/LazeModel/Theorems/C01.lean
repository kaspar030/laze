import LazeModel.Lemmas.Resolver
/-! C01 — every successful resolution is closed under hard dependencies (`selects`, activated
    `if … then` selects): each is satisfied by a selected module of that name or a selected provider. -/
namespace Laze.C01
open Laze

variable (w : World)

def sat (s : RState) (n : Name) : Prop :=
  s.isSel n = true ∨ ∃ p ∈ w.providers n, s.isSel p = true

def processed (s : RState) : Dep → Prop
  | .hard n => sat w s n
  | .soft _ => True
  | .ifHard c n => sat w s n ∨ (c, Dep.hard n) ∈ s.pending
  | .ifSoft _ _ => True

structure Le (s s' : RState) : Prop where
  sel : ∀ n, s.isSel n = true → s'.isSel n = true
  pend : ∀ e ∈ s.pending, e ∈ s'.pending
  pendNew : ∀ c d, (c, d) ∈ s'.pending → (c, d) ∈ s.pending ∨ s.isSel c = false

theorem Le.refl (s : RState) : Le s s := ⟨fun _ h => h, fun _ h => h, fun _ _ h => Or.inl h⟩

theorem Le.trans {a b c : RState} (h1 : Le a b) (h2 : Le b c) : Le a c := by
  refine ⟨fun n h => h2.sel n (h1.sel n h), fun e h => h2.pend e (h1.pend e h), fun x d h => ?_⟩
  rcases h2.pendNew x d h with h | h
  · exact h1.pendNew x d h
  · exact Or.inr (Bool.eq_false_iff.2 fun hx => Bool.eq_false_iff.1 h (h1.sel x hx))

theorem sat_mono {s s' : RState} (h : Le s s') {n : Name} (hs : sat w s n) : sat w s' n := by
  rcases hs with hs | ⟨p, hp, hs⟩
  · exact Or.inl (h.sel n hs)
  · exact Or.inr ⟨p, hp, h.sel p hs⟩

theorem processed_mono {s s' : RState} (h : Le s s') {d : Dep} (hd : processed w s d) : processed w s' d := by
  cases d with
  | hard n => exact sat_mono w h hd
  | soft n => trivial
  | ifHard c n =>
    rcases hd with hd | hd
    · exact Or.inl (sat_mono w h hd)
    · exact Or.inr (h.pend _ hd)
  | ifSoft c n => trivial

theorem Le.of_pend {s : RState} {c : Name} (d : Dep) (hc : s.isSel c = false) :
    Le s { s with pending := s.pending ++ [(c, d)] } := by
  refine ⟨fun n h => h, fun e h => by simp [h], fun x y h => ?_⟩
  simp at h
  rcases h with h | ⟨rfl, rfl⟩
  · exact Or.inl h
  · exact Or.inr hc

theorem Le.of_enter {m : Mod} {s s1 : RState} (h : enter m s = .ok s1) : Le s s1 := by
  refine ⟨fun n hn => (enter_isSel h n).2 (Or.inl hn), fun e he => ?_, fun c d hcd => Or.inl ?_⟩
  · rw [enter_pending h]; exact he
  · rw [← enter_pending h]; exact hcd

theorem le_closed : StepClosed w (fun _ => True) Le :=
  .of_enter (fun _ => trivial) Le.refl Le.trans Le.of_pend (fun _ _ => Le.of_enter)

def World.WF (w : World) : Prop := ∀ n m, w.lookup n = some m → m.name = n

/-! ### what the loop of one module leaves behind -/
section processed
variable {w} {rec : RRec} (wf : World.WF w)
  (hrec : ∀ m s s', rec m s = .ok s' → Le s s' ∧ s'.isSel m.name = true)
include wf hrec

theorem name_sel {n : Name} {s s' : RState} (h : resolveNameW w rec n s = .ok s') :
    s'.isSel n = true := by
  unfold resolveNameW at h
  split at h
  · cases h
  · have := (hrec _ _ _ h).2; rwa [wf _ _ ‹_›] at this

omit wf in
theorem list_le (f : Name) (ps : List Name) (cnt : Nat) (s : RState) :
    Le s (resolveListW w rec ps f cnt s).2 :=
  (le_closed w).list (fun m s s' _ h => (hrec m s s' h).1) f ps cnt s

theorem list_sat (f : Name) (ps : List Name) (cnt : Nat) (s : RState) :
    (resolveListW w rec ps f cnt s).1 > cnt → ∃ p ∈ ps, (resolveListW w rec ps f cnt s).2.isSel p = true := by
  fun_induction resolveListW w rec ps f cnt s with
  | case1 _ cnt => exact fun h => absurd h (Nat.lt_irrefl cnt)
  | case2 p ps f _ s hs =>                    -- `p` is selected already
    exact fun _ => ⟨p, List.mem_cons_self, (list_le hrec f ps _ s).sel p hs⟩
  | case3 _ _ _ cnt => exact fun h => absurd h (Nat.lt_irrefl cnt)
  | case5 p ps f _ _ _ _ s' hn =>             -- `p` resolves
    exact fun _ => ⟨p, List.mem_cons_self, (list_le hrec f ps _ s').sel p (name_sel wf hrec hn)⟩
  | case4 _ _ _ _ _ _ _ _ ih | case6 _ _ _ _ _ _ _ _ _ ih =>    -- `p` is skipped
    exact fun h => (ih h).imp fun _ hq => ⟨List.mem_cons_of_mem _ hq.1, hq.2⟩

theorem one_sat {n : Name} {s s' : RState} (h : resolveOneW w rec n false s = .ok s') : sat w s' n := by
  rcases resolveOneW_ok h with hn | ⟨rfl, hc⟩
  · exact Or.inl (name_sel wf hrec hn)
  · exact Or.inr (list_sat wf hrec n (w.providers n) 0 s (hc.resolve_left Bool.false_ne_true))

theorem dep_processed {d : Dep} {s s' : RState} (h : resolveDepW w rec d s = .ok s') :
    processed w s' d := by
  cases d with
  | hard n => exact one_sat wf hrec h
  | soft n | ifSoft c n => trivial
  | ifHard c n =>
    simp only [resolveDepW] at h
    split at h
    · exact Or.inl (one_sat wf hrec h)
    · cases h; exact Or.inr (by simp)

theorem deps_processed : ∀ (ds : List Dep) {s s' : RState}, resolveDepsW w rec ds s = .ok s' →
    ∀ d ∈ ds, processed w s' d
  | [], _, _, _ => List.forall_mem_nil _
  | d :: ds, s, s', h => by
    obtain ⟨s1, h1, h2⟩ := resolveDepsW_cons_ok h
    have le : Le s1 s' := (le_closed w).deps (rec := rec) (fun m s s' _ h => (hrec m s s' h).1) ds h2
    exact List.forall_mem_cons.2 ⟨processed_mono w le (dep_processed wf hrec h1), deps_processed ds h2⟩

end processed

/-- the invariant, relative to the set `O` of modules whose loop over their dependencies is still running (they are selected
    but not yet closed). Of a selected module outside `O`, every dependency is processed (`g1`), and an if-then dependency
    `c ⇒ n` that is still parked although `c` is selected and outside `O` is satisfied (`g2`: `c` was selected after the
    dependency was parked, and its frame picked it up from `lateDeps`). -/
structure G (O : Name → Prop) (s : RState) : Prop where
  g1 : ∀ x, s.isSel x = true → ¬ O x → ∀ m, w.lookup x = some m → ∀ d ∈ m.selects, processed w s d
  g2 : ∀ c, s.isSel c = true → ¬ O c → ∀ n, (c, Dep.hard n) ∈ s.pending → sat w s n

theorem G.pend {O : Name → Prop} {s : RState} (hg : G w O s) {c : Name} (d : Dep) (hc : s.isSel c = false) :
    G w O { s with pending := s.pending ++ [(c, d)] } := by
  have le := Le.of_pend d hc
  refine ⟨fun x hx hO m hm d' hd' => processed_mono w le (hg.g1 x hx hO m hm d' hd'), fun c' hc' hO n hn => ?_⟩
  simp at hn
  rcases hn with hn | ⟨rfl, _⟩
  · exact sat_mono w le (hg.g2 c' hc' hO n hn)
  · exact absurd hc' (Bool.eq_false_iff.1 hc)

/-- a module leaves the open set when its loop is through: its selects and its late
    dependencies are then processed (`deps_processed`) -/
theorem g_closed (wf : World.WF w) :
    StepClosed w (fun m => w.lookup m.name = some m) (fun s s' => ∀ O, G w O s → G w O s') where
  known h := by rw [wf _ _ h]; exact h
  refl _ _ hg := hg
  trans h1 h2 O hg := h2 O (h1 O hg)
  pend d hc _ hg := hg.pend w d hc
  step := by
    intro fuel m s s1 s' hm _ hent hds ih O hg
    have sel1 := enter_isSel hent
    have le1 : Le s s1 := Le.of_enter hent
    have le2 : Le s1 s' := (le_closed w).deepDeps fuel _ hds
    have pr := deps_processed wf
      (fun _ _ _ h => ⟨(le_closed w).deep _ trivial h, resolveDeep_isSel h⟩) _ hds
    -- invariant with `m` added to the open set
    have g2 : G w (fun x => O x ∨ x = m.name) s' := by
      refine ih _ ⟨fun x hx hO mx hmx d hd => ?_, fun c hc hO n hn => ?_⟩
      · have hx' : s.isSel x = true := ((sel1 x).1 hx).resolve_right (fun h => hO (Or.inr h))
        exact processed_mono w le1 (hg.g1 x hx' (fun h => hO (Or.inl h)) mx hmx d hd)
      · have hc' : s.isSel c = true := ((sel1 c).1 hc).resolve_right (fun h => hO (Or.inr h))
        rw [enter_pending hent] at hn
        exact sat_mono w le1 (hg.g2 c hc' (fun h => hO (Or.inl h)) n hn)
    refine ⟨fun x hx hO mx hmx d hd => ?_, fun c hc hO n hn => ?_⟩
    · by_cases hxm : x = m.name
      · subst hxm
        cases hm.symm.trans hmx
        exact pr d (by simp [hd])
      · exact g2.g1 x hx (fun h => h.elim hO hxm) mx hmx d hd
    · by_cases hcm : c = m.name
      · subst hcm
        rcases le2.pendNew _ _ hn with hn1 | hn1
        · exact pr (.hard n) (by simp [mem_lateDeps.2 hn1])
        · -- parked after `m` was entered: that happens only under a name not selected at that moment, and `m.name` was
          exact absurd ((sel1 m.name).2 (.inr rfl)) (Bool.eq_false_iff.1 hn1)
      · exact g2.g2 c hc (fun h => h.elim hO hcm) n hn

/-- C01 on the model: every successful resolution is closed under hard dependencies. -/
theorem closure (wf : World.WF w) (fuel : Nat) (app : Mod) (s0 r : RState)
    (happ : w.lookup app.name = some app) (h0 : s0.sel = [])
    (h : resolveDeep w fuel app s0 = .ok r) :
    ∀ x, r.isSel x = true → ∀ m, w.lookup x = some m → ∀ d ∈ m.selects,
      match d with
      | .hard n => sat w r n
      | .ifHard c n => r.isSel c = true → sat w r n
      | _ => True := by
  have hnone := fun x => Bool.eq_false_iff.1 (RState.isSel_nil h0 x)
  have g0 : G w (fun _ => False) s0 := ⟨fun x hx => absurd hx (hnone x), fun c hc => absurd hc (hnone c)⟩
  have g := (g_closed w wf).deep fuel happ h _ g0
  intro x hx m hm d hd
  have hp := g.g1 x hx (fun h => h) m hm d hd
  cases d with
  | hard n => exact hp
  | soft n | ifSoft c n => trivial
  | ifHard c n => exact fun hc => hp.elim id (g.g2 c hc (fun h => h) n)


/-! ### the world of one (builder, app) pair is well-formed -/

theorem buildWorld_wf (b : Bag) (builder : Name) (app' : Module) :
    World.WF (buildWorld b builder app') :=
  fun _ _ => buildWorld_lookup_name

/-! ### C01 for `resolveTop` -/

theorem clone_selects (app : Module) (builder : Name) (cli : Cli) :
    (appClone app builder cli).selects
      = cli.select.getD [] ++ app.selects ++ [Dep.hard ("context::" ++ builder)] := rfl

theorem clone_name (app : Module) (builder : Name) (cli : Cli) :
    (appClone app builder cli).name = app.name := rfl

/-- C01: the result of a successful top-level resolution is closed under hard dependencies. The
    app clone's selects (`clone_selects`) are the CLI selects, the app's own selects and the
    builder's context module. -/
theorem closure_top (b : Bag) (builder : Name) (app : Module) (cli : Cli) (rs : RState)
    (h : resolveTop b builder app cli = .ok rs) :
    ∀ x, rs.isSel x = true → ∀ m,
      (buildWorld b builder (appClone app builder cli)).lookup x = some m → ∀ d ∈ m.selects,
      match d with
      | .hard n => sat (buildWorld b builder (appClone app builder cli)) rs n
      | .ifHard c n => rs.isSel c = true → sat (buildWorld b builder (appClone app builder cli)) rs n
      | _ => True :=
  closure (buildWorld b builder (appClone app builder cli)) (buildWorld_wf _ _ _) _
    (appClone app builder cli).toMod _ rs (buildWorld_lookup_app _ _ _) rfl h

theorem app_selected (b : Bag) (builder : Name) (app : Module) (cli : Cli) (rs : RState)
    (h : resolveTop b builder app cli = .ok rs) : rs.isSel app.name = true :=
  resolveDeep_isSel h

/-! ### non-vacuity: resolutions with a rollback and an `if … then` activation succeed -/

def exWorld (appSelects : List Dep) : World where
  lookup := fun n =>
    if n = "app" then some ⟨"app", appSelects, [], []⟩
    else if n = "x" then some ⟨"x", [.hard "z", .hard "missing"], [], []⟩
    else if n = "y" then some ⟨"y", [.hard "q"], ["x"], []⟩
    else if n = "q" then some ⟨"q", [], [], []⟩
    else if n = "z" then some ⟨"z", [], [], []⟩
    else none
  providers := fun _ => []

def selOf : Except RErr RState → Option (List Name × List (Name × Dep))
  | .ok r => some (r.sel, r.pending)
  | .error _ => none

/-- `x` is tried first (selecting `x`, `z`), fails on `missing` and is rolled back; `y` then
    selects `q`, and `q ⇒ z` is found active when it is reached. -/
example : selOf (resolveDeep (exWorld [.soft "x", .hard "y", .ifHard "q" "z"]) 5
      ⟨"app", [.soft "x", .hard "y", .ifHard "q" "z"], [], []⟩ ⟨[], [], [], []⟩)
    = some (["app", "y", "q", "z"], []) := by decide +kernel

/-- late activation: `q ⇒ z` is registered as pending before `q` is selected, and is picked up
    from `lateDeps` when `q` is entered (via `y`). The rolled-back subtree of `x` leaves nothing. -/
example : selOf (resolveDeep (exWorld [.soft "x", .ifHard "q" "z", .hard "y"]) 5
      ⟨"app", [.soft "x", .ifHard "q" "z", .hard "y"], [], []⟩ ⟨[], [], [], []⟩)
    = some (["app", "y", "q", "z"], [("q", .hard "z")]) := by decide +kernel

/-- and the resolver does reject: with `x` required, the unsatisfiable `missing` fails the whole
    resolution, so `closure` is not about a resolver that accepts everything -/
example : selOf (resolveDeep (exWorld [.hard "x"]) 5 ⟨"app", [.hard "x"], [], []⟩ ⟨[], [], [], []⟩)
    = none := by decide +kernel

end Laze.C01
