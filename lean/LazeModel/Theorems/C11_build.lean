import LazeModel.Lemmas.GenSpec
/-! C11 at project level: `configureBuild` configures an app for a builder only if the allow/block decision admits the builder
    **and** the app's context is the builder or one of its ancestors; it reports `blocked` exactly when the decision refuses and
    `not-ancestor` exactly when the decision admits but the context is not on the builder's chain. The resolution and everything
    after it can only produce `unresolved`, `dep-cycle`, a build, or an error — never one of the two eligibility verdicts. -/
namespace Laze.C11
open Laze

/-- the app's context is the builder or one of its ancestors -/
def Eligible (b : Bag) (builder : Name) (app : Module) : Prop := app.contextName ∈ b.chain builder

/-- **C11 (ancestor)**: a configured build — and equally one that was attempted and dropped as unresolvable or cyclic — exists
    only for a builder the allow/block decision admits and whose chain contains the app's context -/
theorem configured_only_if_eligible {ev st b builder app cli o}
    (h : configureBuild ev st b builder app cli = .ok o)
    (ho : o ≠ .noBuild .blocked) (ho' : o ≠ .noBuild .notAncestor) :
    (b.tree.isAllowed builder app.blocklist app.allowlist).ok = true ∧ Eligible b builder app := by
  rcases configureBuild_ok h with ⟨_, h'⟩ | ⟨hal, ⟨_, h'⟩ | ⟨hanc, _⟩⟩
  · exact absurd h' ho
  · exact absurd h' ho'
  · exact ⟨hal, List.contains_iff_mem.1 hanc⟩

theorem built_only_if_eligible {ev st b builder app cli i}
    (h : configureBuild ev st b builder app cli = .ok (.build i)) :
    (b.tree.isAllowed builder app.blocklist app.allowlist).ok = true ∧ Eligible b builder app :=
  configured_only_if_eligible h (by simp) (by simp)

/-- the resolution and everything after it (the last alternative of `configureBuild_ok`) never end in one of the two eligibility
    verdicts: `unresolved`, or else a dropped build-dependency cycle or a build -/
theorem resolved_verdict {ev st b builder app cli o}
    (h : (∃ e, resolveTop b builder app cli = .error e ∧ o = .noBuild .unresolved) ∨
      ∃ rs, resolveTop b builder app cli = .ok rs ∧
        configureSelection ev st b builder app cli (resolvedOf b builder (appClone app builder cli) rs) = .ok o) :
    o ≠ .noBuild .blocked ∧ o ≠ .noBuild .notAncestor := by
  rcases h with ⟨_, _, rfl⟩ | ⟨_, _, hsel⟩
  · exact ⟨by simp, by simp⟩
  · obtain ⟨_, _, _, _, _, _, hord⟩ := configureSelection_ok hsel
    rcases configureOrdered_ok hord with ⟨_, rfl⟩ | ⟨_, _, _, _, _, _, _, rfl⟩ <;> exact ⟨by simp, by simp⟩

/-- **C11 (blocked)**: `blocked` is reported exactly when the allow/block decision refuses the builder -/
theorem blocked_iff {ev st b builder app cli} :
    configureBuild ev st b builder app cli = .ok (.noBuild .blocked) ↔
      (b.tree.isAllowed builder app.blocklist app.allowlist).ok = false := by
  constructor
  · intro h
    rcases configureBuild_ok h with ⟨hal, _⟩ | ⟨_, ⟨_, h'⟩ | ⟨_, h'⟩⟩
    · exact hal
    · cases h'
    · exact absurd rfl (resolved_verdict h').1
  · intro h
    unfold configureBuild
    simp [h]

/-- **C11 (not an ancestor)**: `not-ancestor` is reported exactly when the decision admits the builder but the app's context is
    neither the builder nor one of its ancestors -/
theorem notAncestor_iff {ev st b builder app cli} :
    configureBuild ev st b builder app cli = .ok (.noBuild .notAncestor) ↔
      (b.tree.isAllowed builder app.blocklist app.allowlist).ok = true ∧ ¬ Eligible b builder app := by
  constructor
  · intro h
    rcases configureBuild_ok h with ⟨_, h'⟩ | ⟨hal, ⟨hanc, _⟩ | ⟨_, h'⟩⟩
    · cases h'
    · exact ⟨hal, fun he => by rw [List.contains_iff_mem.2 he] at hanc; cases hanc⟩
    · exact absurd rfl (resolved_verdict h').2
  · rintro ⟨hal, hne⟩
    unfold configureBuild
    rw [if_neg (by simp [hal]), if_pos (by simpa [Eligible] using hne)]

/-- the eligibility verdicts do not depend on the command line, the environment, the expression evaluator or anything else a build
    is made of: two apps with the same context and lists get the same verdict for a builder -/
theorem eligibility_depends_on_lists_and_context {ev ev' st st' b builder app app' cli cli'}
    (hc : app.contextName = app'.contextName) (hb : app.blocklist = app'.blocklist) (ha : app.allowlist = app'.allowlist)
    (r : NoBuild) (hr : r = .blocked ∨ r = .notAncestor) :
    configureBuild ev st b builder app cli = .ok (.noBuild r) ↔ configureBuild ev' st' b builder app' cli' = .ok (.noBuild r) := by
  rcases hr with rfl | rfl
  · rw [blocked_iff, blocked_iff, hb, ha]
  · rw [notAncestor_iff, notAncestor_iff, hb, ha]; unfold Eligible; rw [hc]

/-! non-vacuity: a two-family tree; an app of `fam_b` is not eligible for `board_a`, an app of `default` is -/
private def t2 : Bag := { contexts := [
  { name := "default", parent := none }, { name := "fam_a", parent := some "default" }, { name := "fam_b", parent := some "default" },
  { name := "board_a", parent := some "fam_a", isBuilder := true } ] }
example : Eligible t2 "board_a" { name := "fw", contextName := "default" } := by unfold Eligible; decide +kernel
example : Eligible t2 "board_a" { name := "fw", contextName := "fam_a" } := by unfold Eligible; decide +kernel
example : ¬ Eligible t2 "board_a" { name := "fw", contextName := "fam_b" } := by unfold Eligible; decide +kernel

end Laze.C11
