import LazeModel.Lemmas.Resolver
/-! C02 — exclusion: no configured build contains a disabled module (or a module providing a
    disabled name), two modules in conflict (by name or by provided feature, in either direction),
    or two providers of a `provides_unique` feature.

    The proof: an invariant `Excl` of resolver states, preserved by `enter` and by appending to
    `pending`, hence by every successful resolution (`StepClosed.of_pred`). -/
namespace Laze.C02
open Laze

def World.WF (w : World) : Prop := ∀ n m, w.lookup n = some m → m.name = n

/-- the exclusion invariant; `D0` are the names disabled from outside (context chain, `--disable`) -/
structure Excl (w : World) (D0 : List Name) (s : RState) : Prop where
  known : ∀ x ∈ s.sel, ∃ m, w.lookup x = some m
  confReg : ∀ x ∈ s.sel, ∀ m, w.lookup x = some m → ∀ c ∈ m.conflicts, s.isDisabled c = true
  provReg : ∀ x ∈ s.sel, ∀ m, w.lookup x = some m → ∀ f ∈ m.provides, s.isProvided f = true
  d0 : ∀ d ∈ D0, s.isDisabled d = true
  notD0 : ∀ x ∈ s.sel, ∀ m, w.lookup x = some m → x ∉ D0 ∧ ∀ f ∈ m.provides, f ∉ D0
  pair : ∀ x ∈ s.sel, ∀ y ∈ s.sel, x ≠ y → ∀ mx my, w.lookup x = some mx → w.lookup y = some my →
          ∀ c ∈ mx.conflicts, c ≠ y ∧ c ∉ my.provides

/-! ### `enter` -/

theorem excl_enter {w : World} {D0 : List Name} {m : Mod} {s s' : RState}
    (hm : w.lookup m.name = some m) (inv : Excl w D0 s) (h : enter m s = .ok s') : Excl w D0 s' := by
  obtain ⟨hd, hc, hp, rfl⟩ := enter_ok h
  have dis := enter_isDisabled h
  have prov := enter_isProvided h
  have lk : ∀ {mx : Mod}, w.lookup m.name = some mx → mx = m :=
    fun hmx => (Option.some.inj (hm.symm.trans hmx)).symm
  -- the selected names are the old ones and `m.name`
  have sel : ∀ {P : Name → Prop}, (∀ x ∈ s.sel, P x) → P m.name → ∀ x ∈ s.sel ++ [m.name], P x :=
    fun old new => List.forall_mem_append.2 ⟨old, List.forall_mem_singleton.2 new⟩
  refine ⟨sel inv.known ⟨m, hm⟩, ?_, ?_, ?_, ?_, ?_⟩
  · refine sel (fun x hx mx hmx c hcx => ?_) (fun mx hmx c hcx => ?_)
    · rw [dis, inv.confReg x hx mx hmx c hcx]; rfl
    · cases lk hmx; rw [dis, List.contains_iff_mem.2 hcx, Bool.or_true]
  · refine sel (fun x hx mx hmx f hfx => ?_) (fun mx hmx f hfx => ?_)
    · rw [prov, inv.provReg x hx mx hmx f hfx]; rfl
    · cases lk hmx; rw [prov, List.contains_iff_mem.2 hfx, Bool.or_true]
  · intro d hd0
    rw [dis, inv.d0 d hd0]; rfl
  · refine sel inv.notD0 (fun mx hmx => ?_)
    cases lk hmx
    exact ⟨fun hin => Bool.eq_false_iff.1 hd (inv.d0 _ hin),
      fun f hf hin => Bool.eq_false_iff.1 (hp f hf) (inv.d0 _ hin)⟩
  · -- two old names; an old and the new one; the new and an old one; the new one twice
    refine sel (fun x hx => sel (inv.pair x hx) ?_) (sel ?_ (fun hxy => absurd rfl hxy))
    · -- `x` was selected before, `m` is new: `c` is a disabled name
      intro _ mx my hmx hmy c hcx
      cases lk hmy
      have hdc := inv.confReg x hx mx hmx c hcx
      exact ⟨fun hcy => Bool.eq_false_iff.1 hd (hcy ▸ hdc), fun hcp => Bool.eq_false_iff.1 (hp c hcp) hdc⟩
    · -- `m` is new, `y` was selected before: `c` is neither selected nor provided
      intro y hy _ mx my hmx hmy c hcx
      cases lk hmx
      obtain ⟨hsel, hprov⟩ := hc c hcx
      exact ⟨fun hcy => RState.isSel_eq_false.1 hsel (hcy ▸ hy),
        fun hcp => Bool.eq_false_iff.1 hprov (inv.provReg y hy my hmy c hcp)⟩

/-! ### every successful resolution preserves the invariant -/

variable {w : World} {D0 : List Name}

theorem excl_closed (wf : World.WF w) (D0 : List Name) :
    StepClosed w (fun m => w.lookup m.name = some m) (fun s s' => Excl w D0 s → Excl w D0 s') :=
  .of_pred (fun h => by rw [wf _ _ h]; exact h)
    -- the invariant does not mention `pending`
    (fun _ inv => ⟨inv.known, inv.confReg, inv.provReg, inv.d0, inv.notD0, inv.pair⟩)
    (fun hm _ he inv => excl_enter hm inv he)

theorem excl_init (w : World) (D0 : List Name) :
    Excl w D0 ⟨[], [], D0.map (fun d => (d, none)), []⟩ :=
  ⟨List.forall_mem_nil _, List.forall_mem_nil _, List.forall_mem_nil _,
    fun d hd => RState.isDisabled_iff.2 (by simpa using hd),
    List.forall_mem_nil _, List.forall_mem_nil _⟩

/-- C02 on the model: every successful resolution from the initial state satisfies `Excl`. -/
theorem excl (w : World) (wf : World.WF w) (D0 : List Name) (fuel : Nat) (app : Mod) (s0 r : RState)
    (happ : w.lookup app.name = some app) (h0 : s0 = ⟨[], [], D0.map (fun d => (d, none)), []⟩)
    (h : resolveDeep w fuel app s0 = .ok r) : Excl w D0 r := by
  subst h0
  exact (excl_closed wf D0).deep fuel happ h (excl_init w D0)

/-! ### the property in its own words (for any state satisfying `Excl`) -/

theorem no_disabled_selected {s : RState} (inv : Excl w D0 s) : ∀ x ∈ s.sel, x ∉ D0 := by
  intro x hx
  obtain ⟨m, hl⟩ := inv.known x hx
  exact (inv.notD0 x hx m hl).1

theorem no_disabled_provided {s : RState} (inv : Excl w D0 s) :
    ∀ x ∈ s.sel, ∀ m, w.lookup x = some m → ∀ f ∈ m.provides, f ∉ D0 :=
  fun x hx m hm => (inv.notD0 x hx m hm).2

/-- no two selected modules are in conflict, by name or via a provided feature, in either
    direction (conflict is symmetric) -/
theorem no_conflict_pair {s : RState} (inv : Excl w D0 s) {x y : Name} (hx : x ∈ s.sel) (hy : y ∈ s.sel)
    (hxy : x ≠ y) {mx my : Mod} (hmx : w.lookup x = some mx) (hmy : w.lookup y = some my) :
    y ∉ mx.conflicts ∧ x ∉ my.conflicts ∧
    (∀ f ∈ my.provides, f ∉ mx.conflicts) ∧ (∀ f ∈ mx.provides, f ∉ my.conflicts) := by
  refine ⟨fun h => ?_, fun h => ?_, fun f hf h => ?_, fun f hf h => ?_⟩
  · exact (inv.pair x hx y hy hxy mx my hmx hmy y h).1 rfl
  · exact (inv.pair y hy x hx (Ne.symm hxy) my mx hmy hmx x h).1 rfl
  · exact (inv.pair x hx y hy hxy mx my hmx hmy f h).2 hf
  · exact (inv.pair y hy x hx (Ne.symm hxy) my mx hmy hmx f h).2 hf

/-- a `provides_unique` feature (in both `provides` and `conflicts` of `mx`) has no second
    selected provider -/
theorem unique_provider {s : RState} (inv : Excl w D0 s) {x y : Name} (hx : x ∈ s.sel) (hy : y ∈ s.sel)
    (hxy : y ≠ x) {mx my : Mod} (hmx : w.lookup x = some mx) (hmy : w.lookup y = some my)
    {f : Name} (_hfp : f ∈ mx.provides) (hfc : f ∈ mx.conflicts) : f ∉ my.provides :=
  (inv.pair x hx y hy (Ne.symm hxy) mx my hmx hmy f hfc).2

/-! ### the top level (`Build::new`) -/

theorem buildWorld_wf (b : Bag) (builder : Name) (app' : Module) :
    World.WF (buildWorld b builder app') :=
  fun _ _ => buildWorld_lookup_name

/-- C02 for a configured build: the state returned by `resolveTop` satisfies `Excl` with respect
    to the names disabled by the builder's context chain and by `--disable`. -/
theorem excl_top (b : Bag) (builder : Name) (app : Module) (cli : Cli) (rs : RState)
    (h : resolveTop b builder app cli = .ok rs) :
    Excl (buildWorld b builder (appClone app builder cli)) (initialDisabled b builder cli) rs :=
  excl _ (buildWorld_wf b builder _) _ _ _ _ rs (buildWorld_lookup_app b builder _) rfl h

/-- no configured build contains a module that is disabled by the builder's context chain or by
    `--disable`, nor a module that provides such a name -/
theorem top_no_disabled (b : Bag) (builder : Name) (app : Module) (cli : Cli) (rs : RState)
    (h : resolveTop b builder app cli = .ok rs) :
    ∀ x ∈ rs.sel, ∃ m, (buildWorld b builder (appClone app builder cli)).lookup x = some m ∧
      ∀ n, n = x ∨ n ∈ m.provides →
        (∀ c ∈ b.chainCtx builder, n ∉ c.disable.getD []) ∧ n ∉ cli.disable.getD [] := by
  intro x hx
  have inv := excl_top b builder app cli rs h
  obtain ⟨m, hm⟩ := inv.known x hx
  refine ⟨m, hm, fun n hn => ?_⟩
  have hnot : n ∉ initialDisabled b builder cli := by
    rcases hn with rfl | hn
    · exact (inv.notD0 n hx m hm).1
    · exact (inv.notD0 x hx m hm).2 n hn
  rw [mem_initialDisabled] at hnot
  exact ⟨fun c hc hin => hnot (Or.inl ⟨c, hc, hin⟩), fun hin => hnot (Or.inr hin)⟩

/-- no configured build contains two modules in conflict (either direction, by name or by a
    provided feature) -/
theorem top_no_conflict_pair (b : Bag) (builder : Name) (app : Module) (cli : Cli) (rs : RState)
    (h : resolveTop b builder app cli = .ok rs) {x y : Name} (hx : x ∈ rs.sel) (hy : y ∈ rs.sel)
    (hxy : x ≠ y) {mx my : Mod}
    (hmx : (buildWorld b builder (appClone app builder cli)).lookup x = some mx)
    (hmy : (buildWorld b builder (appClone app builder cli)).lookup y = some my) :
    y ∉ mx.conflicts ∧ x ∉ my.conflicts ∧
    (∀ f ∈ my.provides, f ∉ mx.conflicts) ∧ (∀ f ∈ mx.provides, f ∉ my.conflicts) :=
  no_conflict_pair (excl_top b builder app cli rs h) hx hy hxy hmx hmy

/-- no configured build contains two providers of a feature one of them `provides_unique` -/
theorem top_unique_provider (b : Bag) (builder : Name) (app : Module) (cli : Cli) (rs : RState)
    (h : resolveTop b builder app cli = .ok rs) {x y : Name} (hx : x ∈ rs.sel) (hy : y ∈ rs.sel)
    (hxy : y ≠ x) {mx my : Mod}
    (hmx : (buildWorld b builder (appClone app builder cli)).lookup x = some mx)
    (hmy : (buildWorld b builder (appClone app builder cli)).lookup y = some my)
    {f : Name} (hfp : f ∈ mx.provides) (hfc : f ∈ mx.conflicts) : f ∉ my.provides :=
  unique_provider (excl_top b builder app cli rs h) hx hy hxy hmx hmy hfp hfc

/-! ### non-vacuity: concrete worlds -/

section Examples

/-- `y` conflicts with `x`; `u` provides `f` uniquely; `p` also provides `f`; `q` provides `z` -/
def exMods (appSelects : List Dep) : List Mod :=
  [ ⟨"app", appSelects, [], []⟩,
    ⟨"x", [], [], []⟩,
    ⟨"y", [], ["x"], []⟩,
    ⟨"u", [], ["f"], ["f"]⟩,
    ⟨"p", [], [], ["f"]⟩,
    ⟨"z", [], [], []⟩,
    ⟨"q", [], [], ["z"]⟩ ]

def exWorld (appSelects : List Dep) : World :=
  { lookup := fun n => (exMods appSelects).find? (·.name == n)
    providers := fun f => if f == "f" then ["u", "p"] else if f == "z" then ["q"] else [] }

def exApp (appSelects : List Dep) : Mod := ⟨"app", appSelects, [], []⟩
def exS0 (D0 : List Name) : RState := ⟨[], [], D0.map (fun d => (d, none)), []⟩

def exRun (D0 : List Name) (appSelects : List Dep) : Except RErr RState :=
  resolveDeep (exWorld appSelects) 6 (exApp appSelects) (exS0 D0)

def selIs (r : Except RErr RState) (l : List Name) : Bool :=
  match r with | .ok s => s.sel == l | .error _ => false
def errIs (r : Except RErr RState) (e : RErr) : Bool :=
  match r with | .ok _ => false | .error e' => e == e'

theorem exWorld_wf (sel : List Dep) : World.WF (exWorld sel) := by
  intro n m h
  have := List.find?_some h
  simpa using this

/-- the hypotheses of `excl` are jointly satisfiable with a non-trivial result: `y` (conflicts
    with `x`) is reached first, the soft dependency on `x` is then dropped -/
example : selIs (exRun [] [.hard "y", .soft "x"]) ["app", "y"] = true := by decide +kernel
example : ∀ r, exRun [] [.hard "y", .soft "x"] = .ok r → Excl (exWorld [.hard "y", .soft "x"]) [] r :=
  fun r h => excl _ (exWorld_wf _) [] 6 _ _ r rfl rfl h
/-- symmetric: with `x` reached first, `y` is the one that is left out -/
example : selIs (exRun [] [.soft "x", .soft "y"]) ["app", "x"] = true := by decide +kernel
example : selIs (exRun [] [.soft "y", .soft "x"]) ["app", "y"] = true := by decide +kernel
/-- … and a hard dependency on the excluded module rejects the build, in either order -/
example : errIs (exRun [] [.soft "x", .hard "y"]) .dep = true := by decide +kernel
example : errIs (exRun [] [.hard "y", .hard "x"]) .dep = true := by decide +kernel
/-- `provides_unique`: only one provider of `f` is selected, whichever comes first -/
example : selIs (exRun [] [.hard "u", .soft "p"]) ["app", "u"] = true := by decide +kernel
example : selIs (exRun [] [.hard "p", .soft "u"]) ["app", "p"] = true := by decide +kernel
/-- a dependency on the feature itself: the first provider is taken, the second is not tried -/
example : selIs (exRun [] [.hard "f"]) ["app", "u"] = true := by decide +kernel
/-- names disabled from outside: the module `z` and the provider `q` of `z` are not selected -/
example : selIs (exRun ["z"] [.soft "z", .soft "q", .soft "x"]) ["app", "x"] = true := by decide +kernel
example : errIs (exRun ["z"] [.hard "q"]) .dep = true := by decide +kernel

end Examples

end Laze.C02
