import LazeModel.Model.Select
import LazeModel.Lemmas.ExceptFold
/-! C06 (rule blocks are loadable): every value of a rule block that the generator writes is ONE line. A ninja value ends with its
    line, so a line break inside `command = …` ends the rule block early (found on the code as it was: `cmd: |` in a rule). After
    the repair a rule reaches the file only through `finishRule` (rules of contexts, LINK, POST_LINK, GIT_PATCH) or `customCmd`
    (custom builds), and both refuse a line break. -/
namespace Laze.C06
open Laze

/-- the printed values of a rule block -/
def NinjaRule.OneLine (r : NinjaRule) : Prop :=
  hasLineBreak r.command = false ∧ optHasLineBreak r.description = false ∧ optHasLineBreak r.rspfile = false ∧
  optHasLineBreak r.rspfileContent = false ∧ optHasLineBreak r.pool = false ∧ optHasLineBreak r.deps = false

theorem singleLine_oneLine {r r' : NinjaRule} (h : r.singleLine = some r') : NinjaRule.OneLine r' := by
  unfold NinjaRule.singleLine at h
  simp only at h
  split at h
  · cases h
  · rename_i hc
    cases h
    simp only [Bool.or_eq_true, not_or, Bool.not_eq_true] at hc
    obtain ⟨⟨⟨⟨⟨h1, h2⟩, h3⟩, h4⟩, h5⟩, h6⟩ := hc
    exact ⟨h1, h2, h3, h4, h5, h6⟩

/-- `named` changes the name only -/
theorem named_oneLine {r : NinjaRule} (h : NinjaRule.OneLine r) : NinjaRule.OneLine r.named := h

/-- a rule that `finishRule` lets through has one-line values; with the rule's name it is all a rule block prints -/
theorem finishRule_oneLine {r nr : NinjaRule} (h : finishRule r = .ok nr) : NinjaRule.OneLine nr := by
  unfold finishRule at h
  split at h
  · rename_i r' hr
    cases h
    exact named_oneLine (singleLine_oneLine hr)
  · cases h

/-- every rule made from a laze rule (`Rule::to_ninja`) has one-line values -/
theorem ruleToNinja_oneLine {ev : EvalExpr} {rule : Rule} {flat : Flat} {nr : NinjaRule}
    (h : ruleToNinja ev rule flat = .ok nr) : NinjaRule.OneLine nr := by
  unfold ruleToNinja at h
  simp only [Except.bind_eq_ok] at h
  obtain ⟨_, _, _, _, _, _, h⟩ := h
  exact finishRule_oneLine h

/-- the command of a custom build is what `single_line` makes of the rule the generator builds: `customCmd` is `finishRule`
    on that rule -/
theorem customCmd_is_finishRule (cb : CustomBuild) (cmd0 cmd : String) (h : customCmd cb cmd0 = .ok cmd) :
    finishRule { name := "BUILD", command := cmd0, description := some "BUILD ${out}", deps := cb.gccDeps } = .ok (customRule cb cmd) := by
  unfold customCmd at h
  split at h
  · cases h
  · rename_i hc
    obtain rfl := Except.ok.inj h
    simp only [Bool.or_eq_true, not_or, Bool.not_eq_true] at hc
    have hd : trimLineEnd "BUILD ${out}" = "BUILD ${out}" := by decide +kernel
    have hd' : optHasLineBreak (some "BUILD ${out}") = false := by decide +kernel
    have hn : optHasLineBreak none = false := rfl
    unfold finishRule NinjaRule.singleLine
    simp only [Option.map_some, hd, hd', hn, hc.1, hc.2, Bool.or_self, Bool.false_eq_true, ↓reduceIte]
    rfl

/-- the rule of a custom build has one-line values -/
theorem customRule_oneLine {cb : CustomBuild} {cmd0 cmd : String} (h : customCmd cb cmd0 = .ok cmd) :
    NinjaRule.OneLine (customRule cb cmd) :=
  finishRule_oneLine (customCmd_is_finishRule cb cmd0 cmd h)

/-- dropping the final line breaks leaves a text that has none alone -/
theorem trimLineEnd_noop {s : String} (h : ∀ c ∈ s.toList.getLast?, (c == '\n' || c == '\r') = false) : trimLineEnd s = s := by
  unfold trimLineEnd
  have : s.toList.reverse.dropWhile (fun c => c == '\n' || c == '\r') = s.toList.reverse := by
    cases hl : s.toList.reverse with
    | nil => rfl
    | cons c cs =>
      have := h c (by rw [List.getLast?_eq_head?_reverse, hl]; rfl)
      simp [List.dropWhile, this]
  rw [this, List.reverse_reverse, String.ofList_toList]

/-- non-vacuity: a block-scalar command loses its final line break and passes; one with an inner break is refused -/
example : (finishRule { name := "CC", command := "cc -c ${in}\n", description := some "CC\n" }).toOption.map (·.command) = some "cc -c ${in}" := by
  decide +kernel
example : (finishRule { name := "CC", command := "cc -c\n ${in}" }).toOption = none := by decide +kernel

end Laze.C06
