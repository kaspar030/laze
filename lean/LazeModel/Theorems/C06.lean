import LazeModel.Lemmas.Select
import LazeModel.Lemmas.Path
import LazeModel.Theorems.C06_text
/-! C06: rule blocks are functional in their (hashed) name, the entry set is duplicate free and
    insertion ordered (rules before use), the output file of a configured build is a target,
    laze-chosen paths lie under the build directory. -/
namespace Laze.C06
open Laze

/-! ### rule text is determined by the hashed fields -/

/-- "no 64-bit collision" for the rule hasher -/
def HashInj : Prop :=
  ∀ r1 r2 : NinjaRule, r1.hash = r2.hash →
    r1.name = r2.name ∧ r1.command = r2.command ∧ r1.description = r2.description ∧ r1.deps = r2.deps ∧
    r1.rspfile = r2.rspfile ∧ r1.rspfileContent = r2.rspfileContent ∧ r1.pool = r2.pool ∧ r1.always = r2.always

/-- `r1` and `r2` agree on every hashed field, that is on all but `export` -/
def HashedEq (r1 r2 : NinjaRule) : Prop :=
  r1.name = r2.name ∧ r1.command = r2.command ∧ r1.description = r2.description ∧ r1.deps = r2.deps ∧
  r1.rspfile = r2.rspfile ∧ r1.rspfileContent = r2.rspfileContent ∧ r1.pool = r2.pool ∧ r1.always = r2.always

/-- the text of a rule block only depends on the hashed fields (`always` and `export` do not occur) -/
theorem render_determined {r1 r2 : NinjaRule} (h : HashedEq r1 r2) : r1.render = r2.render := by
  obtain ⟨hn, hc, hd, hg, hr, hrc, hp, _⟩ := h
  unfold NinjaRule.render
  rw [hn, hc, hd, hg, hr, hrc, hp]

theorem named_name (r : NinjaRule) : r.named.name = r.name ++ "_" ++ r.hash := rfl
theorem named_command (r : NinjaRule) : r.named.command = r.command := rfl

theorem render_eq_of_hash_eq (hi : HashInj) {r1 r2 : NinjaRule} (h : r1.hash = r2.hash) :
    r1.render = r2.render :=
  render_determined (hi r1 r2 h)

theorem hash_eq_of_named {r1 r2 : NinjaRule} (hnamed : r1.named.name = r2.named.name) (hbase : r1.name = r2.name) :
    r1.hash = r2.hash := by
  rwa [named_name, named_name, hbase, String.append_right_inj] at hnamed

/-- two rule blocks with the same base name and the same hashed name are the same text -/
theorem rule_names_functional (hi : HashInj) {r1 r2 : NinjaRule}
    (hnamed : r1.named.name = r2.named.name) (hbase : r1.name = r2.name) :
    r1.named.render = r2.named.render :=
  -- `named` changes the name only
  render_determined ⟨hnamed, (hi r1 r2 (hash_eq_of_named hnamed hbase)).2⟩

/-- the same, and the two named rules also agree on `always` (which `buildFromRule` copies into the
    statements that use the rule) -/
theorem rule_names_functional_always (hi : HashInj) {r1 r2 : NinjaRule}
    (hnamed : r1.named.name = r2.named.name) (hbase : r1.name = r2.name) :
    r1.named.always = r2.named.always :=
  (hi r1 r2 (hash_eq_of_named hnamed hbase)).2.2.2.2.2.2.2

/-- the rules the generator makes from laze rules: same laze rule name + same ninja name ⇒ same text -/
theorem mkNinjaRule_functional (hi : HashInj) {rule1 rule2 : Rule} {pre1 cmd1 pre2 cmd2 : String}
    {d1 d2 : Option String} (hbase : rule1.name = rule2.name)
    (hname : (mkNinjaRule rule1 pre1 cmd1 d1).name = (mkNinjaRule rule2 pre2 cmd2 d2).name) :
    (mkNinjaRule rule1 pre1 cmd1 d1).render = (mkNinjaRule rule2 pre2 cmd2 d2).render :=
  rule_names_functional hi hname hbase

/-- the rules of custom builds (base name `BUILD`) -/
theorem customRule_functional (hi : HashInj) {cb1 cb2 : CustomBuild} {cmd1 cmd2 : String}
    (hname : (customRule cb1 cmd1).name = (customRule cb2 cmd2).name) :
    (customRule cb1 cmd1).render = (customRule cb2 cmd2).render :=
  rule_names_functional hi hname rfl

example : ({ name := "CC", command := "gcc" } : NinjaRule).named.name
    = ({ name := "CC", command := "gcc", «export» := some [] } : NinjaRule).named.name := by decide +kernel

/-! ### the entry set -/

theorem addEntries_nil (es : List String) : addEntries es [] = es := rfl
theorem addEntries_cons (es : List String) (a : String) (l : List String) :
    addEntries es (a :: l) = addEntries (addEntry es a) l := rfl

theorem addEntries_head_first (es : List String) (a : String) (l : List String) {b : String} (hb : b ∉ es)
    (hab : a ≠ b) : (addEntries es (a :: l)).idxOf a < (addEntries es (a :: l)).idxOf b :=
  idxOf_lt_of_prefix (prefix_addEntries (addEntry es a) l) (mem_addEntry.2 (.inr rfl))
    fun h => (mem_addEntry.1 h).elim hb fun e => hab e.symm

example : (addEntries ["x"] ["a", "b"]).idxOf "a" < (addEntries ["x"] ["a", "b"]).idxOf "b" :=
  addEntries_head_first ["x"] "a" ["b"] (by decide) (by decide)

/-- every rule/build block occurs once in the generated file -/
theorem generate_entries_nodup {ev h st b a r} (hg : generate ev h st b a = .ok (.done r)) :
    r.entries.Nodup :=
  generate_entries hg ▸ nodup_dedup _

/-- the blocks of the first build come first, in their order -/
theorem generate_first_prefix {ev h st b a r i rest} (hg : generate ev h st b a = .ok (.done r))
    (hb : r.builds = i :: rest) (hn : i.entries.Nodup) : i.entries <+: r.entries := by
  rw [generate_entries hg, hb, List.flatMap_cons, dedup_append, dedup_eq_foldl, foldl_setAdd_of_nodup _ [] hn]
  exact prefix_foldl_setAdd _ _

/-! ### rules before use -/

/-- `b` extends `a`: old entries keep their positions, no duplicates are introduced -/
def Ext (a b : List String) : Prop := a <+: b ∧ (a.Nodup → b.Nodup)

theorem Ext.addEntries (es l : List String) : Ext es (addEntries es l) :=
  ⟨prefix_addEntries es l, fun h => nodup_addEntries h l⟩

theorem moduleRulesLoop_rendered {ev rules flat ss entries em}
    (h : moduleRulesLoop ev rules flat ss entries [] = .ok em) : ∀ p ∈ em.2, p.2.render ∈ em.1 := by
  rw [moduleRulesLoop_eq] at h
  obtain ⟨ens, _, rfl⟩ := Except.map_eq_ok.1 h
  exact fun p hp => mem_addEntries.2 (.inr (List.mem_map_of_mem ((mem_foldl_addModuleRule hp).resolve_left List.not_mem_nil)))

/-- **rules before use**, default build step: the rule blocks are inserted by the first loop, whose result
    `em.1` is a prefix of the final entries; every source's compile statement uses a rule of the
    module's table, and that rule's block is in `em.1` -/
theorem rules_before_use {ev st builder app rules flat srcdir sources combined localDeps srcTag ls ls'}
    (h : defaultBuildStep ev st builder app rules flat srcdir sources combined localDeps srcTag ls = .ok ls') :
    ∃ em, moduleRulesLoop ev rules flat sources ls.entries [] = .ok em ∧
      Ext ls.entries em.1 ∧ Ext em.1 ls'.entries ∧
      ∀ s ∈ sources, ∃ srcpath ext rule nr out,
        expandSrcPath ev flat srcdir s = .ok srcpath ∧ pathExtension srcpath = some ext ∧
        lookupCompileRule rules em.2 ext = some (rule, nr) ∧ rule.out = some out ∧
        nr.render ∈ em.1 ∧
        (buildFromRule nr (some [srcpath])
            [objectPath st builder app rule nr (depsHashOf combined) out srcpath] combined).rule = nr.name ∧
        (buildFromRule nr (some [srcpath])
            [objectPath st builder app rule nr (depsHashOf combined) out srcpath] combined).render ∈ ls'.entries ∧
        (∀ e ∈ sourceDepStmts localDeps srcTag srcpath, e ∈ ls'.entries) ∧
        objectPath st builder app rule nr (depsHashOf combined) out srcpath ∈ ls'.objects := by
  obtain ⟨ens, res, hens, hres, rfl⟩ := defaultBuildStep_ok h
  have hem := moduleRulesLoop_eq (ev := ev) (rules := rules) (flat := flat) sources ls.entries []
  rw [hens] at hem
  dsimp only
  rw [addEntries_append]
  refine ⟨_, hem, Ext.addEntries _ _, Ext.addEntries _ _, fun s hs => ?_⟩
  obtain ⟨os, hos, hcs⟩ := mapM_ok_mem hres hs
  obtain ⟨srcpath, ext, rule, nr, out, hsp, hext, hrule, hnr, hout, e1, e2⟩ := compileSource_ok hcs
  -- the statements of `s` are among those the second loop adds
  have hin : ∀ e ∈ os.2, e ∈ addEntries (addEntries ls.entries (ens.map (·.2.render))) (res.flatMap (·.2)) :=
    fun e he => mem_addEntries.2 (.inr (List.mem_flatMap.2 ⟨os, hos, he⟩))
  rw [e2, e1] at hin
  obtain ⟨p, hp, rfl⟩ := Option.map_eq_some_iff.1 hnr
  exact ⟨srcpath, ext, rule, p.2, out, hsp, hext, lookupCompileRule_eq_some hrule hnr, hout,
    moduleRulesLoop_rendered hem p (List.mem_of_find?_eq_some hp), rfl, hin _ List.mem_cons_self,
    fun e he => hin e (List.mem_cons_of_mem _ he), List.mem_append_right _ (List.mem_map.2 ⟨os, hos, e1⟩)⟩

/-- positions: the rule block comes before every statement that the step newly inserts -/
theorem rules_before_use_idx {ev st builder app rules flat srcdir sources combined localDeps srcTag ls ls' em}
    (h : defaultBuildStep ev st builder app rules flat srcdir sources combined localDeps srcTag ls = .ok ls')
    (hem : moduleRulesLoop ev rules flat sources ls.entries [] = .ok em)
    {ext : String} {nr : NinjaRule} (hnr : (ext, nr) ∈ em.2) {stmt : String} (hnew : stmt ∉ em.1) :
    ls'.entries.idxOf nr.render < ls'.entries.idxOf stmt := by
  obtain ⟨em', hem', _, h2, _⟩ := rules_before_use h
  cases hem.symm.trans hem'
  exact idxOf_lt_of_prefix h2.1 (moduleRulesLoop_rendered hem (ext, nr) hnr) hnew

/-- the rule block of a custom build is present, and before its build statement unless that was
    there already -/
theorem customBuildStep_rule_first {ev flat m srcdir sources combined cb ls ls'}
    (h : customBuildStep ev flat m srcdir sources combined cb ls = .ok ls') :
    ∃ (nr : NinjaRule) (nb : NinjaBuild), nb.rule = nr.name ∧ nr.render ∈ ls'.entries ∧ nb.render ∈ ls'.entries ∧
      (nb.render ∉ ls.entries → nr.render ≠ nb.render →
        ls'.entries.idxOf nr.render < ls'.entries.idxOf nb.render) := by
  obtain ⟨_, cmd, srcs, outs, _, _, _, _, rfl⟩ := customBuildStep_ok h
  dsimp only
  -- `customStmts`: the rule block, the build statement, the alias
  exact ⟨customRule cb cmd, buildFromRule (customRule cb cmd) (some srcs) (pathSort outs) combined, rfl,
    mem_addEntries.2 (.inr (.head _)), mem_addEntries.2 (.inr (.tail _ (.head _))), addEntries_head_first _ _ _⟩

/-! ### the output file is a target; every block of a build occurs once -/

theorem rule_ne_build (r : NinjaRule) (b : NinjaBuild) : r.render ≠ b.render := by
  unfold NinjaRule.render NinjaBuild.render
  simp only [String.append_assoc]
  exact append_ne_of_head (c := 'r') (c' := 'b') (by decide +kernel) (by decide +kernel) (by decide) _ _

theorem render_outs_single (b : NinjaBuild) (o : String) (h : b.outs = [o]) :
    ∃ rest, b.render = "build " ++ o ++ ":" ++ rest := by
  obtain ⟨T, hT⟩ := render_prefix b
  rw [hT, h, show "build " = "build" ++ " " from by decide +kernel]
  simp only [List.map_cons, List.map_nil, String.join_cons, String.join_nil, String.append_empty, String.append_assoc]
  exact ⟨T, rfl⟩

/-- link step: the LINK rule block, then the link statement, which uses it and produces `outfile` -/
theorem linkStep_ok {ev rules gflat globals outfile ls es}
    (h : linkStep ev rules gflat globals outfile ls = .ok es) :
    ∃ lr linkRule, rulesByName rules "LINK" = some lr ∧ ruleToNinja ev lr gflat = .ok linkRule ∧
      es = addEntries ls.entries
        [linkRule.render,
         (buildFromRule linkRule (some ls.objects) [outfile] (globalDepFiles globals ls.files)).render] :=
  Laze.linkStep_ok h

theorem configureBuild_target {ev st b builder app cli i}
    (h : configureBuild ev st b builder app cli = .ok (.build i)) :
    i.entries.Nodup ∧
    ∃ (nr : NinjaRule) (ins deps : Option (List String)),
      nr.render ∈ i.entries ∧ (buildFromRule nr ins [i.out] deps).render ∈ i.entries := by
  obtain ⟨_, _, c, rfl⟩ := configureBuild_build h
  obtain ⟨l, hl⟩ := c.entries_adds
  refine ⟨hl ▸ nodup_addEntries ((modulesLoop_le c.loop).nodup List.nodup_nil) l, ?_⟩
  obtain ⟨_, _, _, _, _, _, entries1, eo, _, _, _, _, _, _, hlink, hpost, _⟩ := c
  dsimp only [Configured.info, mkBuildInfo]
  -- the last pair the build adds (link, or post-link) is a rule block and a statement that produces `i.out`
  rcases Laze.postLinkStep_ok hpost with ⟨_, rfl⟩ | ⟨pr, ext, pl, _, _, _, rfl⟩
  · obtain ⟨lr, linkRule, _, _, rfl⟩ := Laze.linkStep_ok hlink
    dsimp only
    exact ⟨linkRule, _, _, mem_addEntries.2 (.inr (.head _)), mem_addEntries.2 (.inr (.tail _ (.head _)))⟩
  · dsimp only
    exact ⟨pl, _, _, mem_addEntries.2 (.inr (.head _)), mem_addEntries.2 (.inr (.tail _ (.head _)))⟩

/-- every block of a configured build occurs once in its entry list -/
theorem configureBuild_entries_nodup {ev st b builder app cli i}
    (h : configureBuild ev st b builder app cli = .ok (.build i)) : i.entries.Nodup :=
  (configureBuild_target h).1

/-- **the output file of a configured build is a target**: some statement of the build has exactly
    `i.out` as its outputs (its text starts with `build <out>:`), and it uses a rule whose block is
    among the build's entries -/
theorem outfile_is_target {ev st b builder app cli i}
    (h : configureBuild ev st b builder app cli = .ok (.build i)) :
    ∃ (nr : NinjaRule) (nb : NinjaBuild), nb.outs = [i.out] ∧ nb.rule = nr.name ∧
      nr.render ∈ i.entries ∧ nb.render ∈ i.entries ∧ ∃ rest, nb.render = "build " ++ i.out ++ ":" ++ rest := by
  obtain ⟨_, nr, ins, deps, h1, h2⟩ := configureBuild_target h
  exact ⟨nr, buildFromRule nr ins [i.out] deps, rfl, rfl, h1, h2, render_outs_single _ _ rfl⟩

/-- in the generated file every build's output file is a target -/
theorem generate_outfiles_are_targets {ev h st b a r} (hg : generate ev h st b a = .ok (.done r)) :
    ∀ i ∈ r.builds, ∃ (nr : NinjaRule) (nb : NinjaBuild), nb.outs = [i.out] ∧ nb.rule = nr.name ∧
      nr.render ∈ r.entries ∧ nb.render ∈ r.entries := by
  intro i hi
  obtain ⟨t, ht, _⟩ := generate_done hg
  obtain ⟨c, m, _, hc⟩ := generate_build_origin hg ht hi
  obtain ⟨nr, nb, h1, h2, h3, h4, _⟩ := outfile_is_target hc
  exact ⟨nr, nb, h1, h2, (mem_generate_entries hg).2 ⟨i, hi, h3⟩, (mem_generate_entries hg).2 ⟨i, hi, h4⟩⟩

/-! ### laze-chosen paths lie under the build directory -/

theorem objectsDir_eq (st : Settings) (h1 : st.buildDir ≠ "") (h2 : st.buildDir.endsWith "/" = false) :
    pathPush st.buildDir "objects" = st.buildDir ++ "/objects" := by
  rw [pathPush_rel_sep _ _ (by decide +kernel) h1 h2, String.append_assoc]
  rfl

theorem objectDir_under (st : Settings) (builder app : Name) (rule : Rule)
    (hb : builder.startsWith "/" = false) (ha : app.startsWith "/" = false) :
    StrPrefix (pathPush st.buildDir "objects") (objectDir st builder app rule) := by
  unfold objectDir
  split
  · exact .refl _
  · exact (pathPush_rel _ builder hb).trans (pathPush_rel _ app ha)

/-- **object files lie under `<build-dir>/objects`** provided the object's relative name (the expanded
    source path with its extension replaced) is not absolute, and, for non-shareable rules, neither the
    builder nor the app name starts with `/`. -/
theorem under_builddir (st : Settings) (builder app : Name) (rule : Rule) (nr : NinjaRule) (h : Option String)
    (out srcpath : String)
    (hrel : (pathWithExtension srcpath (objectExt rule nr h out)).startsWith "/" = false)
    (hb : builder.startsWith "/" = false) (ha : app.startsWith "/" = false) :
    ∃ rest, objectPath st builder app rule nr h out srcpath = pathPush st.buildDir "objects" ++ rest :=
  (objectDir_under st builder app rule hb ha).trans (pathPush_rel _ _ hrel)

/-- the same with the usual shape of the build directory spelled out -/
theorem under_builddir' (st : Settings) (builder app : Name) (rule : Rule) (nr : NinjaRule) (h : Option String)
    (out srcpath : String) (h1 : st.buildDir ≠ "") (h2 : st.buildDir.endsWith "/" = false)
    (hrel : (pathWithExtension srcpath (objectExt rule nr h out)).startsWith "/" = false)
    (hb : builder.startsWith "/" = false) (ha : app.startsWith "/" = false) :
    ∃ rest, objectPath st builder app rule nr h out srcpath = st.buildDir ++ "/objects" ++ rest := by
  rw [← objectsDir_eq st h1 h2]
  exact under_builddir st builder app rule nr h out srcpath hrel hb ha

/-- shareable rules: no condition on builder and app -/
theorem under_builddir_shareable (st : Settings) (builder app : Name) (rule : Rule) (nr : NinjaRule)
    (h : Option String) (out srcpath : String) (hs : rule.shareable = true)
    (hrel : (pathWithExtension srcpath (objectExt rule nr h out)).startsWith "/" = false) :
    ∃ rest, objectPath st builder app rule nr h out srcpath = pathPush st.buildDir "objects" ++ rest := by
  unfold objectPath objectDir
  rw [if_pos hs]
  exact pathPush_rel _ _ hrel

/-- COUNTEREXAMPLE to the unconditional statement: an absolute (expanded) source path puts the object
    next to the source, outside the build directory (`Utf8PathBuf::push` of an absolute path replaces
    the whole path). -/
theorem absolute_source_escapes (st : Settings) (builder app : Name) (rule : Rule) (nr : NinjaRule)
    (h : Option String) (out srcpath : String)
    (habs : (pathWithExtension srcpath (objectExt rule nr h out)).startsWith "/" = true) :
    objectPath st builder app rule nr h out srcpath = pathWithExtension srcpath (objectExt rule nr h out) := by
  unfold objectPath
  exact pathPush_abs _ _ habs

theorem download_srcdir_under (d : Download) (buildDir relpath name : String)
    (hdl : ∀ dl, d.dldir = some dl → dl.startsWith "/" = false)
    (hr : relpath.startsWith "/" = false) (hn : name.startsWith "/" = false) :
    ∃ rest, d.srcdir buildDir relpath name = pathPush buildDir "dl" ++ rest := by
  unfold Download.srcdir
  dsimp only
  split
  · rename_i dl hdl'
    exact pathPush_rel _ _ (hdl dl hdl')
  · exact (pathPush_rel _ relpath hr).trans (pathPush_rel _ name hn)

theorem dl_under (buildDir : String) : ∃ rest, pathPush buildDir "dl" = buildDir ++ rest :=
  pathPush_rel _ _ (by decide +kernel)

theorem tagfile_under (d : Download) (srcdir : String) : ∃ rest, d.tagfile srcdir = srcdir ++ rest := by
  unfold Download.tagfile Download.tagfilePatched Download.tagfileDownload
  split
  · exact pathPush_rel _ _ (by decide +kernel)
  · exact pathPush_rel _ _ (by decide +kernel)

/-! #### concrete data (evaluated; `decide` cannot run `String.splitOn`) -/
section Examples
private def cc : Rule := { name := "CC", cmd := "gcc -c ${in} -o ${out}", out := some "o" }
private def ccN : Rule := { cc with shareable := false }
private def ccNr : NinjaRule := mkNinjaRule cc "" "gcc -c ${in} -o ${out}" none

-- hypotheses of `under_builddir` hold for an ordinary relative source
#guard (pathWithExtension "src/hello.c" (objectExt ccN ccNr none "o")).startsWith "/" == false
#guard objectPath {} "native" "hello" ccN ccNr none "o" "src/hello.c" == "build/objects/native/hello/src/hello.o"
#guard (objectPath {} "native" "hello" cc ccNr none "o" "src/hello.c").startsWith "build/objects/src/hello."
-- COUNTEREXAMPLES (hypothesis `hrel` / `hb` cannot be dropped):
-- an absolute source path: the object lands next to the source, for every builder and app
#guard objectPath {} "native" "hello" ccN ccNr none "o" "/abs/src/hello.c" == "/abs/src/hello.o"
#guard objectPath {} "other" "app2" ccN ccNr none "o" "/abs/src/hello.c" == "/abs/src/hello.o"
#guard (objectPath {} "native" "hello" cc ccNr none "o" "/abs/src/hello.c").startsWith "/abs/src/hello."
-- `..` segments: a string prefix, but not inside the directory
#guard objectPath {} "native" "hello" ccN ccNr none "o" "../../../x/hello.c" == "build/objects/native/hello/../../../x/hello.o"
-- a builder name starting with `/`
#guard objectPath {} "/native" "hello" ccN ccNr none "o" "src/hello.c" == "/native/hello/src/hello.o"
end Examples

/-! #### a concrete project on which the hypotheses of the theorems above hold (evaluated) -/
section ProjectExample
private def ev0 : EvalExpr := fun _ => .error .expr
private def ccR : Rule := { name := "CC", cmd := "gcc -c ${in} -o ${out}", in_ := some "c", out := some "o" }
private def linkR : Rule := { name := "LINK", cmd := "gcc ${in} -o ${out}", in_ := some "o", out := some "elf" }
private def appM : Module :=
  { name := "hello", contextName := "default", sources := ["hello.c"], srcdir := some "src", isBinary := true,
    relpath := "src" }
private def bag0 : Bag := { contexts := [
  { name := "default", parent := none, modules := [{ name := "context::default", contextName := "default" }, appM],
    rules := some [ccR, linkR] },
  { name := "native", parent := some "default", modules := [{ name := "context::native", contextName := "native" }],
    isBuilder := true }] }

-- `configureBuild … = .ok (.build i)` (hypothesis of `outfile_is_target`, `configureBuild_entries_nodup`)
#guard match configureBuild ev0 {} bag0 "native" appM {} with
  | .ok (.build i) => i.out == "/hello.elf" && i.entries.length == 4 | _ => false
-- `generate … = .ok (.done r)` (hypothesis of `generate_entries_nodup`, `generate_outfiles_are_targets`, …)
#guard match generate ev0 (fun _ => 0) {} bag0 {} with
  | .ok (.done r) => r.builds.length == 1 && r.entries.length == 4 | _ => false
-- `defaultBuildStep … = .ok ls'` (hypothesis of `rules_before_use`)
#guard match defaultBuildStep ev0 {} "native" "hello" [("c", ccR), ("o", linkR)] [] "src" ["hello.c", "util.c"]
    none none none {} with
  | .ok ls => ls.entries.length == 3 && ls.objects.length == 2 | _ => false
-- `linkStep`, `postLinkStep` succeed
#guard match linkStep ev0 [("c", ccR), ("o", linkR)] [] [] "hello.elf" {} with | .ok es => es.length == 2 | _ => false
#guard match postLinkStep ev0 [("c", ccR), ("o", linkR)] [] "hello.elf" [] with
  | .ok eo => eo.2 == "hello.elf" | _ => false
end ProjectExample

end Laze.C06
