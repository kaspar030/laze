import LazeModel.Model.Env
import LazeModel.Lemmas.Assoc
/-! C14 — var_options render list variables without stray separators. -/
namespace Laze.C14
open Laze

/-- the rendered elements: every non-empty element wrapped in prefix/suffix -/
def rendered (pre suf : String) (l : List String) : List String :=
  (l.filter (fun s => !s.isEmpty)).map (fun s => pre ++ s ++ suf)

theorem rendered_cons (pre suf s : String) (l : List String) :
    rendered pre suf (s :: l) =
      if s.isEmpty then rendered pre suf l else (pre ++ s ++ suf) :: rendered pre suf l := by
  unfold rendered
  rw [List.filter_cons]
  cases s.isEmpty <;> rfl

theorem joinSep_cons (j x : String) (r : List String) :
    joinSep j (x :: r) = x ++ String.join (r.map (fun y => j ++ y)) := by
  induction r generalizing x with
  | nil => simp [joinSep]
  | cons y r ih => simp [joinSep, ih, String.append_assoc]

/-- the loop of `flatten_with_opts`: only the first rendered element goes without a joiner in front -/
theorem flattenLoop_eq (j pre suf : String) (l : List String) (res : String) (first : Bool) :
    flattenLoop j pre suf l res first =
      res ++ if first then joinSep j (rendered pre suf l)
        else String.join ((rendered pre suf l).map (fun x => j ++ x)) := by
  induction l generalizing res first with
  | nil => cases first <;> simp [flattenLoop, rendered, joinSep]
  | cons s rest ih =>
    rw [flattenLoop, rendered_cons]
    split
    · exact ih res first
    · rw [ih, if_neg Bool.false_ne_true]
      cases first <;> simp [joinSep_cons, String.append_assoc]

/-- The statement of C14 for list values: start, then prefix+value+suffix for every non-empty
    element separated by the joiner (default one space), then end. `joinSep` puts the joiner
    *between* elements only, so there is no leading, trailing or doubled joiner. -/
theorem flatten_opts_spec (l : List String) (o : MergeOption) :
    (EnvKey.list l).flattenWithOpts o =
      optStr o.start ++ joinSep (o.joiner.getD " ") (rendered (optStr o.prefix) (optStr o.suffix) l)
        ++ optStr o.end := by
  simp [EnvKey.flattenWithOpts, flattenLoop_eq]

/-- an empty list (or one with only empty elements) yields start ++ end -/
theorem empty_list (o : MergeOption) (l : List String) (h : ∀ s ∈ l, s.isEmpty = true) :
    (EnvKey.list l).flattenWithOpts o = optStr o.start ++ optStr o.end := by
  rw [flatten_opts_spec, rendered, List.filter_eq_nil_iff.2 fun s hs => by simp [h s hs]]
  simp [joinSep]

theorem single_spec (s : String) (o : MergeOption) :
    (EnvKey.single s).flattenWithOpts o =
      optStr o.start ++ optStr o.prefix ++ s ++ optStr o.suffix ++ optStr o.end := by
  simp [EnvKey.flattenWithOpts]

/-- empty elements are invisible wherever they stand -/
theorem empty_elements_invisible (l : List String) (o : MergeOption) :
    (EnvKey.list l).flattenWithOpts o = (EnvKey.list (l.filter (fun s => !s.isEmpty))).flattenWithOpts o := by
  rw [flatten_opts_spec, flatten_opts_spec]; simp [rendered]

/-- the joiner never appears at the end: appending an empty element changes nothing -/
theorem no_trailing_joiner (l : List String) (o : MergeOption) :
    (EnvKey.list (l ++ [""])).flattenWithOpts o = (EnvKey.list l).flattenWithOpts o := by
  rw [flatten_opts_spec, flatten_opts_spec]; simp [rendered]

theorem flatEntry_fst (opts : VarOpts) (kv : String × EnvKey) : (flatEntry opts kv).1 = kv.1 := by
  unfold flatEntry; split <;> rfl

theorem flatEntry_other (k : String) (o : MergeOption) (kv : String × EnvKey) (h : kv.1 ≠ k) :
    flatEntry [(k, o)] kv = (kv.1, kv.2.flatten) := by
  unfold flatEntry
  rw [show VarOpts.get [(k, o)] kv.1 = none from (C09.lk_cons (k, o) [] kv.1).trans (if_neg (Ne.symm h))]

/-- `from:` takes the elements of the named variable, rendered with the options of the target -/
theorem from_spec (e : Env) (k v : String) (o : MergeOption) (val : EnvKey)
    (hfrom : o.from = some v) (hv : e.get v = some val) (hk : e.has k = false) :
    e.flattenWithOpts [(k, o)] = .ok (e.flatten ++ [(k, val.flattenWithOpts o)]) := by
  have hmap : e.map (flatEntry [(k, o)]) = e.flatten :=
    List.map_congr_left fun kv hkv => flatEntry_other k o kv fun hh =>
      Bool.false_ne_true (hk ▸ (C09.any_key Prod.fst e k).2 (hh ▸ List.mem_map_of_mem hkv))
  have hany : (e.flatten).any (fun p => p.1 == k) = false :=
    (C09.any_map_key Prod.fst Prod.fst (fun kv : String × EnvKey => (kv.1, kv.2.flatten)) (fun _ => rfl) e k).trans hk
  unfold Env.flattenWithOpts
  rw [hmap]
  simp [fromLoop, hfrom, hv, hany]

/-- a variable with both values and `from:` is rejected -/
theorem both_values_and_from_error (e : Env) (k v : String) (o : MergeOption) (val : EnvKey)
    (hfrom : o.from = some v) (hv : e.get v = some val) (hk : e.has k = true) :
    e.flattenWithOpts [(k, o)] = .error .bothValuesAndFrom := by
  have hany : (e.map (flatEntry [(k, o)])).any (fun p => p.1 == k) = true :=
    (C09.any_map_key Prod.fst Prod.fst _ (flatEntry_fst _) e k).trans hk
  unfold Env.flattenWithOpts
  simp [fromLoop, hfrom, hv, hany]

/-- a `from:` naming a variable that does not exist is rejected -/
theorem from_missing_error (e : Env) (k v : String) (o : MergeOption)
    (hfrom : o.from = some v) (hv : e.get v = none) :
    e.flattenWithOpts [(k, o)] = .error .fromMissing := by
  unfold Env.flattenWithOpts
  simp [fromLoop, hfrom, hv]

-- non-vacuity: the statement on a concrete list with empty elements in every position
example : (EnvKey.list ["", "a", "", "b", ""]).flattenWithOpts
    { joiner := some ",", «prefix» := some "-D", start := some "[", «end» := some "]" } = "[-Da,-Db]" := by
  decide +kernel
example : (EnvKey.list []).flattenWithOpts { joiner := some ",", start := some "[", «end» := some "]" } = "[]" := by
  decide +kernel

end Laze.C14
