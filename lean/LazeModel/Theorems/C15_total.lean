import LazeModel.Model.Select
import LazeModel.Lemmas.Finalize
import LazeModel.Lemmas.BuildEnv
import LazeModel.Theorems.C17_worklist
import LazeModel.Theorems.C19_order
/-! # C15 — totality: no panic, no hang

"For any laze-project.yml/laze.yml contents and any command line, laze build terminates promptly
either successfully or with an error message and exit status 1. It never panics, aborts on stack
overflow, or loops."

The model marks the failure points of the implementation: `GErr.panic`, `LErr.panic`, `LErr.hang`.
This file shows that none of them is reachable:

* `configureBuild_no_panic`, `generate_no_panic` — the generator never produces `GErr.panic`: every function of the
  pipeline is walked with `Reported` (the only errors are `.error k`); the one site that can panic, the lookup in
  `modulesLoop`, is excluded by `buildOrder_names`;
* `load_no_panic`, `load_no_hang_strong` — the loader produces neither `LErr.panic` nor `LErr.hang`, whatever the file
  table: everything after the include work-list is walked with `Reported` as well, the work-list itself fails only in
  the two ways of `C17.loadFiles_error` and terminates within its fuel by `C17.load_files_no_hang` (`load_no_hang` states
  the same under a hypothesis it does not need);
* `configureBuild_total`, `load_total` — so both end with a result or a reported error;
* `parent_cycle_rejected`, `empty_name_rejected` — two of the malformed inputs are rejected with a diagnostic. -/
namespace Laze.C15
open Laze
open Except (ErrIn)

/-! ## `NoPanic`, `Reported` -/

/-- the computation does not end in a `GErr.panic` -/
def NoPanic {α} (x : Except GErr α) : Prop := ∀ s, x ≠ .error (.panic s)

/-- the computation succeeds or fails with a reported error (`err` is `GErr.error` or `LErr.error`): no panic, no
    hang. Every function of the generator and of the loader is walked with it, by what `ErrIn` is closed under. -/
abbrev Reported {ε α} (err : String → ε) (x : Except ε α) : Prop := x.ErrIn fun e => ∃ k, e = err k

theorem rp_err {ε α} {err : String → ε} (k : String) : Reported err (.error (err k) : Except ε α) := .error ⟨k, rfl⟩

theorem Reported.total {ε α} {err : String → ε} {x : Except ε α} (h : Reported err x) :
    (∃ v, x = .ok v) ∨ ∃ k, x = .error (err k) := by
  cases x with
  | ok v => exact .inl ⟨v, rfl⟩
  | error e => obtain ⟨k, rfl⟩ := h e rfl; exact .inr ⟨k, rfl⟩

theorem noPanic_iff {α} {x : Except GErr α} : NoPanic x ↔ Reported GErr.error x := by
  constructor
  · intro h e he
    cases e with
    | error k => exact ⟨k, rfl⟩
    | panic s => exact absurd he (h s)
  · intro h s hs
    obtain ⟨k, hk⟩ := h _ hs
    cases hk

/-- for a goal about `match x with | .error e => .error e | .ok v => …` and `hx` that bounds the errors of `x`
    (`Reported err x`, `ErrIn S x`): the error case passes `x`'s error on and is closed by `hx.of_eq`, the `.ok` case remains -/
macro "err_match " hx:term : tactic =>
  `(tactic| (split; exact .of_eq $hx ‹_›))

/-! ## the generator never panics -/

theorem liftX_rp {α} {site : String} {x : Except XErr α} : Reported .error (liftX site x) := by
  unfold liftX
  split
  · exact .ok _
  · exact rp_err _
  · exact rp_err _

theorem unwrapX_rp {α} {site : String} {x : Except XErr α} : Reported .error (unwrapX site x) := liftX_rp

theorem finishRule_rp {nr : NinjaRule} : Reported .error (finishRule nr) := by
  unfold finishRule
  split
  · exact .ok _
  · exact rp_err _

section
variable {ev : EvalExpr} {flat : Flat} {rules : List (String × Rule)} {m : Module} {srcdir : String} {r : Resolved}

theorem applyExport_rp {e : VarExport} : Reported .error (applyExport ev flat e) := by
  unfold applyExport
  exact ErrIn.bind unwrapX_rp fun _ _ => .ok _

theorem applyExports_rp {l : Option (List VarExport)} : Reported .error (applyExports ev flat l) := by
  unfold applyExports
  split
  · exact ErrIn.map _ (ErrIn.mapM (fun _ => applyExport_rp) _)
  · exact .ok _

theorem ruleDeps_rp {d : Option String} : Reported .error (ruleDeps ev flat d) := by
  unfold ruleDeps
  split
  · exact ErrIn.map _ liftX_rp
  · exact .ok _

theorem ruleToNinja_rp {rule : Rule} : Reported .error (ruleToNinja ev rule flat) := by
  unfold ruleToNinja
  exact ErrIn.bind applyExports_rp fun _ _ => ErrIn.bind liftX_rp fun _ _ => ErrIn.bind ruleDeps_rp fun _ _ =>
    finishRule_rp

/-! ### downloads -/

theorem patchRuleToNinja_rp {pr : Rule} : Reported .error (patchRuleToNinja ev pr flat) := by
  unfold patchRuleToNinja
  split
  · exact .ok _
  · rename_i e he
    unfold remapPatchErr
    split
    · split <;> exact rp_err _
    · exact ruleToNinja_rp.of_eq he

theorem patchEntries_rp {vars : List (String × String)} {patches : List String} :
    Reported .error (patchEntries ev m rules flat srcdir vars patches) := by
  unfold patchEntries
  split
  · exact rp_err _
  · err_match patchRuleToNinja_rp
    exact .ok _

theorem withPatchEntries_rp {vars : List (String × String)} {base : List String} {p : Option (List String)} :
    Reported .error (withPatchEntries ev m rules flat srcdir vars base p) := by
  unfold withPatchEntries
  split
  · exact .ok _
  · err_match patchEntries_rp
    exact .ok _

theorem gitDownloadEntries_rp {d : Download} {commit : String} :
    Reported .error (gitDownloadEntries ev m d rules flat commit) := by
  unfold gitDownloadEntries
  split
  · exact rp_err _
  · err_match ruleToNinja_rp
    exact withPatchEntries_rp

theorem downloadEntries_rp {d : Download} : Reported .error (downloadEntries ev m d rules flat) := by
  unfold downloadEntries
  split
  · exact rp_err _
  · exact gitDownloadEntries_rp

theorem downloadStep_rp {ls : LoopState} : Reported .error (downloadStep ev m srcdir rules flat ls) := by
  unfold downloadStep
  split
  · err_match downloadEntries_rp
    exact .ok _
  · err_match unwrapX_rp
    exact .ok _

/-! ### tasks -/

theorem taskWorkdir_rp {w : Option String} : Reported .error (taskWorkdir ev flat w) := by
  unfold taskWorkdir
  split
  · exact ErrIn.map _ liftX_rp
  · exact .ok _

theorem taskWithEnvEval_rp {t : Task} : Reported .error (taskWithEnvEval ev flat t) := by
  unfold taskWithEnvEval
  exact ErrIn.bind (ErrIn.mapM (fun _ => liftX_rp) _) fun _ _ => ErrIn.bind applyExports_rp fun _ _ =>
    ErrIn.bind taskWorkdir_rp fun _ _ => .ok _

theorem taskAvail_rp {t : Task} : Reported .error (taskAvail ev flat r t) := by
  unfold taskAvail
  split
  · exact .ok _
  · split
    · exact .ok _
    · exact ErrIn.map _ taskWithEnvEval_rp

theorem insertTasks_rp {ts : List (String × Task)} {res : List (String × TaskAvail)} :
    Reported .error (insertTasks ev flat r ts res) := by
  induction ts generalizing res with
  | nil => exact .ok _
  | cons nt ts ih =>
    unfold insertTasks
    err_match taskAvail_rp
    exact ih

/-- `contextTasksStep` is `insertTasks` -/
theorem contextsTasksLoop_rp {cs : List Context} {res : List (String × TaskAvail)} :
    Reported .error (contextsTasksLoop ev flat r cs res) := by
  induction cs generalizing res with
  | nil => exact .ok _
  | cons c cs ih =>
    unfold contextsTasksLoop
    err_match insertTasks_rp
    exact ih

end

/-! ### the sources of a module -/

section
variable {ev : EvalExpr} {st : Settings} {builder appName : Name} {rules : List (String × Rule)}
  {mrules : List (String × NinjaRule)} {flat : Flat} {srcdir : String} {combined localDeps : Option (List String)}
  {srcTagfile : Option String}

theorem ruleForSource_rp {s : String} : Reported .error (ruleForSource ev rules flat s) := by
  unfold ruleForSource
  split
  · exact rp_err _
  · split
    · exact rp_err _
    · err_match ruleToNinja_rp
      exact .ok _

theorem compileStmts_rp {srcpath : String} :
    Reported .error (compileStmts st builder appName rules mrules combined localDeps srcTagfile srcpath) := by
  unfold compileStmts
  split
  · exact rp_err _
  · split
    · exact rp_err _
    · split
      · exact rp_err _
      · exact .ok _

theorem compileSource_rp {s : String} :
    Reported .error (compileSource ev st builder appName rules mrules flat srcdir combined localDeps srcTagfile s) := by
  unfold compileSource
  err_match unwrapX_rp
  exact compileStmts_rp

/-- both loops over the sources are a `mapM` followed by a pure fold -/
theorem defaultBuildStep_rp {sources : List String} {ls : LoopState} :
    Reported .error (defaultBuildStep ev st builder appName rules flat srcdir sources combined localDeps srcTagfile ls) := by
  unfold defaultBuildStep
  rw [moduleRulesLoop_eq]
  err_match ErrIn.map _ (ErrIn.mapM (fun _ => ruleForSource_rp) _)
  rw [compileSourcesLoop_eq]
  err_match ErrIn.map _ (ErrIn.mapM (fun _ => compileSource_rp) _)
  exact .ok _

end

theorem customCmd_rp {cb : CustomBuild} {c : String} : Reported .error (customCmd cb c) :=
  .ite (rp_err _) (.ok _)

theorem importedOf_rp {files : FileTable} {l : Option (List Name)} : Reported .error (importedOf files l) := by
  unfold importedOf
  split
  · exact .ok _
  · rw [importedDepFiles_eq]
    exact .ok _

theorem moduleFlat_rp {opts : Option VarOpts} {menv : Env} : Reported .error (moduleFlat opts menv) := by
  unfold moduleFlat
  split
  · exact .ok _
  · exact rp_err _

theorem globalFlat_rp {opts : Option VarOpts} {genv : Env} : Reported .error (globalFlat opts genv) := by
  unfold globalFlat
  split
  · exact .ok _
  · exact rp_err _

/-! ### the module loop -/

section
variable {ev : EvalExpr} {st : Settings} {builder : Name} {app : Module} {r : Resolved} {rules : List (String × Rule)}
  {opts : Option VarOpts} {globals : List Name} {m : Module} {bdeps : Option (List Name)} {srcdir : String} {flat : Flat}
  {ls : LoopState}

theorem customBuildStep_rp {sources : List String} {combined : Option (List String)} {cb : CustomBuild} :
    Reported .error (customBuildStep ev flat m srcdir sources combined cb ls) := by
  unfold customBuildStep
  refine .ite (rp_err _) ?_
  unfold customBuildStepCore
  exact ErrIn.bind unwrapX_rp fun _ _ => ErrIn.bind customCmd_rp fun _ _ =>
    ErrIn.bind (ErrIn.mapM (fun _ => unwrapX_rp) _) fun _ _ =>
    ErrIn.bind (ErrIn.mapM (fun _ => unwrapX_rp) _) fun _ _ => .ok _

theorem moduleStmts_rp : Reported .error (moduleStmts ev st builder app r rules globals m bdeps srcdir flat ls) := by
  unfold moduleStmts
  err_match downloadStep_rp
  err_match importedOf_rp
  unfold buildStep
  split
  · exact customBuildStep_rp
  · exact defaultBuildStep_rp

theorem moduleStep_rp {menv : Env} : Reported .error (moduleStep ev st builder app r rules opts globals m menv bdeps ls) := by
  unfold moduleStep
  split
  · exact .ok _
  · err_match moduleFlat_rp
    err_match moduleStmts_rp
    exact .ok _

/-- the only panic site: when every name of the order is the name of a module env, the lookup succeeds -/
theorem modulesLoop_rp {menvs : List ModEnv} {order : List Name} (horder : ∀ n ∈ order, ∃ me ∈ menvs, me.1.name = n)
    {mflats : List (Name × Flat)} :
    Reported .error (modulesLoop ev st builder app r rules opts globals menvs order ls mflats) := by
  induction order generalizing ls mflats with
  | nil => exact .ok _
  | cons n ns ih =>
    unfold modulesLoop
    split
    · rename_i hnone
      obtain ⟨me, hme, hn⟩ := horder n List.mem_cons_self
      exact absurd (beq_iff_eq.2 hn) (List.find?_eq_none.1 hnone me hme)
    · err_match moduleStep_rp
      exact ih fun n hn => horder n (List.mem_cons_of_mem _ hn)

end

/-! ### module envs -/

theorem notifyAppend_rp {env : Env} {dep : Module} : Reported .error (notifyAppend env dep) := by
  unfold notifyAppend
  split
  · exact rp_err _
  · exact .ok _
  · exact .ok _

theorem depEnvStep_rp {m dep : Module} {env : Env} : Reported .error (depEnvStep m dep env) :=
  .ite (.ok _) notifyAppend_rp

theorem buildEnv_rp {r : Resolved} {m : Module} {genv : Env} : Reported .error (buildEnv r m genv) := by
  rw [buildEnv_eq]
  exact ErrIn.map _ (ErrIn.foldlM (fun _ _ => depEnvStep_rp) _ _)

theorem moduleEnvs_rp {r : Resolved} {genv : Env} {ms : List Module} : Reported .error (moduleEnvs r genv ms) := by
  induction ms with
  | nil => exact .ok _
  | cons m ms ih =>
    unfold moduleEnvs
    err_match buildEnv_rp
    err_match ih
    exact .ok _

/-- **the lookup in the module loop cannot fail**: every name of the build order of the module envs
    of a selection is the name of one of these module envs -/
theorem buildOrder_names {r : Resolved} {genv : Env} {menvs : List ModEnv} {order : List Name}
    (hm : moduleEnvs r genv r.modules = .ok menvs) (ho : buildOrder (menvs.map ModEnv.deps) = some order) :
    ∀ n ∈ order, ∃ me ∈ menvs, me.1.name = n := by
  intro n hn
  have hmem : n ∈ (menvs.map ModEnv.deps).map (·.1.name) := by
    rcases (((C19.buildOrder_nodup_mem ho).2 n).1 hn).2 with h | ⟨mb, hmb, hd⟩
    · exact h
    · exact C19.moduleEnvs_closed hm mb hmb n hd
  obtain ⟨mb, hmb, rfl⟩ := List.mem_map.1 hmem
  obtain ⟨me, hme, rfl⟩ := List.mem_map.1 hmb
  exact ⟨me, hme, rfl⟩

/-! ### link, post-link, result: `configure_build` -/

section
variable {ev : EvalExpr} {st : Settings} {b : Bag} {builder : Name} {app : Module} {r : Resolved}
  {rules : List (String × Rule)} {gflat : Flat} {outfile : String} {globals : List Name} {ls : LoopState}

theorem linkStep_rp : Reported .error (linkStep ev rules gflat globals outfile ls) := by
  unfold linkStep
  split
  · exact rp_err _
  · err_match ruleToNinja_rp
    exact .ok _

theorem postLinkStep_rp {entries : List String} : Reported .error (postLinkStep ev rules gflat outfile entries) := by
  unfold postLinkStep
  split
  · exact .ok _
  · split
    · exact rp_err _
    · err_match ruleToNinja_rp
      exact .ok _

/-- `collectTasks` is `contextsTasksLoop` over the builder's chain -/
theorem finishBuild_rp {mflats : List (Name × Flat)} :
    Reported .error (finishBuild ev b builder app r rules gflat outfile globals ls mflats) := by
  unfold finishBuild
  err_match linkStep_rp
  err_match postLinkStep_rp
  err_match contextsTasksLoop_rp
  exact .ok _

theorem configureOrdered_rp {opts : Option VarOpts} {genv : Env} {menvs : List ModEnv}
    (hm : moduleEnvs r genv r.modules = .ok menvs) :
    Reported .error (configureOrdered ev st b builder app r rules opts gflat outfile menvs) := by
  unfold configureOrdered
  split
  · exact .ok _
  · rename_i order ho
    err_match modulesLoop_rp (buildOrder_names hm ho)
    err_match finishBuild_rp
    exact .ok _

theorem configureSelection_rp {cli : Cli} : Reported .error (configureSelection ev st b builder app cli r) := by
  unfold configureSelection
  err_match globalFlat_rp
  -- `rw`, not `unfold`: to compare the two sides the kernel would evaluate `expandS gflat .empty "${outfile}"` as
  -- far as the literal goes
  rw [configureWithEnv]
  err_match unwrapX_rp
  err_match moduleEnvs_rp
  rename_i menvs hm
  exact configureOrdered_rp hm

end

theorem configureBuild_rp {ev : EvalExpr} {st : Settings} {b : Bag} {builder : Name} {app : Module} {cli : Cli} :
    Reported .error (configureBuild ev st b builder app cli) := by
  unfold configureBuild
  refine .ite (.ok _) (.ite (.ok _) ?_)
  split
  · exact .ok _
  · exact configureSelection_rp   -- `configureResolved` is `configureSelection` of the resolved selection

/-- **C15** `configure_build` never panics — for every bag, builder, app, command line and
    expression evaluator. In particular the `modules.get(dep_name)` lookup of the module loop always
    succeeds (`buildOrder_names`). -/
theorem configureBuild_no_panic (ev : EvalExpr) (st : Settings) (b : Bag) (builder : Name) (app : Module)
    (cli : Cli) : ∀ site, configureBuild ev st b builder app cli ≠ .error (.panic site) :=
  noPanic_iff.2 configureBuild_rp

/-- so the result is a configured (or dropped) build, or a reported error -/
theorem configureBuild_total (ev : EvalExpr) (st : Settings) (b : Bag) (builder : Name) (app : Module)
    (cli : Cli) :
    (∃ o, configureBuild ev st b builder app cli = .ok o) ∨
      ∃ k, configureBuild ev st b builder app cli = .error (.error k) :=
  configureBuild_rp.total


/-! ## `Generator::execute` -/

theorem selectedBuilders_rp {b : Bag} {sel : Selector} : Reported .error (selectedBuilders b sel) := by
  unfold selectedBuilders
  split
  · exact .ok _
  · refine ErrIn.mapM (fun n => ?_) _
    split
    · exact .ite (.ok _) (rp_err _)
    · exact rp_err _

theorem np_throw_bind {α β} (k : String) (f : α → Except GErr β) :
    NoPanic ((throw (GErr.error k) : Except GErr α) >>= f) := fun _ h => by cases h

/-- the two tests of `--apps` throw a reported error; every other path returns a list -/
theorem selectedBins_rp {b : Bag} {apps : Selector} {mode : Mode} : Reported .error (selectedBins b apps mode) := by
  unfold selectedBins
  cases apps with
  | all => cases mode <;> exact .ok _
  | some l =>
    refine .ite (rp_err _) ?_
    cases mode with
    | global => exact .ok _
    | «local» dir => exact .ite (rp_err _) (.ok _)

theorem buildTuples_rp {h : String → Nat} {b : Bag} {a : Args} : Reported .error (buildTuples h b a) := by
  unfold buildTuples
  exact ErrIn.bind selectedBuilders_rp fun _ _ => ErrIn.bind selectedBins_rp fun _ _ => .ok _

theorem mem_failuresOf_configureAll {ev : EvalExpr} {st : Settings} {b : Bag} {cli : Cli}
    {tuples : List (Context × Module)} {e : GErr} (he : e ∈ failuresOf (configureAll ev st b cli tuples)) :
    ∃ cm ∈ tuples, configureBuild ev st b cm.1.name cm.2 cli = .error e := by
  unfold failuresOf configureAll at he
  obtain ⟨x, hx, hxe⟩ := List.mem_filterMap.1 he
  obtain ⟨cm, hcm, rfl⟩ := List.mem_map.1 hx
  refine ⟨cm, hcm, ?_⟩
  dsimp only at hxe
  split at hxe
  · cases hxe
    assumption
  · cases hxe

/-- the outcome of a run contains no panic -/
def outcomeNoPanic : GenOutcome → Prop
  | .failed errs => ∀ e ∈ errs, ∀ s, e ≠ GErr.panic s
  | .done _ => True

/-- **C15** `laze build`'s generator run ends with a result — the ninja file, or the list of the
    tuples' reported errors, none of which is a panic — or with a reported error -/
theorem generate_no_panic (ev : EvalExpr) (h : String → Nat) (st : Settings) (b : Bag) (a : Args) :
    (∃ o, generate ev h st b a = .ok o ∧ outcomeNoPanic o) ∨ ∃ k, generate ev h st b a = .error (.error k) := by
  unfold generate
  rcases (buildTuples_rp (h := h) (b := b) (a := a)).total with ⟨tuples, ht⟩ | ⟨k, hk⟩
  · rw [ht]
    left
    dsimp only [bind, Except.bind]
    split
    · exact ⟨_, rfl, trivial⟩
    · refine ⟨_, rfl, fun e he s hs => ?_⟩
      obtain ⟨cm, _, hcm⟩ := mem_failuresOf_configureAll he
      exact configureBuild_no_panic _ _ _ _ _ _ s (hs ▸ hcm)
  · rw [hk]
    exact .inr ⟨k, rfl⟩

/-- in the form of the task statement: never `.error (.panic _)`, and no `.panic` among the errors
    of a failed run -/
theorem generate_no_panic' (ev : EvalExpr) (h : String → Nat) (st : Settings) (b : Bag) (a : Args) :
    (∀ s, generate ev h st b a ≠ .error (.panic s)) ∧
      ∀ errs, generate ev h st b a = .ok (.failed errs) → ∀ e ∈ errs, ∀ s, e ≠ .panic s := by
  rcases generate_no_panic ev h st b a with ⟨o, ho, hnp⟩ | ⟨k, hk⟩
  · rw [ho]
    exact ⟨fun _ hs => (by cases hs), fun errs he => by cases he; exact hnp⟩
  · rw [hk]
    exact ⟨fun _ hs => (by cases hs), fun _ he => (by cases he)⟩


/-! ## the loader never panics

Everything after the file work-list only fails with a *reported* error (`Reported`); the work-list
itself (`loadFiles`) can in addition run out of fuel (`LErr.hang`) but never panics. -/

/-! ### contexts -/

section
variable {flat : Flat} {early : Env} {filename : String} {isB : Bool} {cs : List Context}

theorem depFromString_rp {s : String} : Reported .error (depFromString s) :=
  .ite (rp_err _) (.ite (.ok _) (.ok _))

theorem depFromStringIf_rp {s other : String} : Reported .error (depFromStringIf s other) :=
  .ite (rp_err _) (.ite (.ok _) (.ok _))

theorem earlyX_rp {α} {x : Except XErr α} : Reported .error (earlyX x) := by
  unfold earlyX
  split
  · exact .ok _
  · exact rp_err _

theorem expandTaskStr_rp {s : String} : Reported .error (expandTaskStr flat s) := by
  unfold expandTaskStr
  split
  · exact .ok _
  · exact rp_err _

theorem expandTaskWorkdir_rp {w : Option String} : Reported .error (expandTaskWorkdir flat w) := by
  unfold expandTaskWorkdir
  split
  · exact ErrIn.map _ expandTaskStr_rp
  · exact .ok _

theorem taskWithEnv_rp {t : Task} : Reported .error (taskWithEnv flat t) := by
  unfold taskWithEnv
  exact ErrIn.bind (ErrIn.mapM (fun _ => expandTaskStr_rp) _) fun _ _ =>
    ErrIn.bind expandTaskWorkdir_rp fun _ _ => .ok _

/-- `convertTask` is `taskWithEnv` with the task's name put back -/
theorem convertTasks_rp {tasks : List (String × Task)} : Reported .error (convertTasks tasks early) :=
  ErrIn.mapM (fun _ => ErrIn.map _ taskWithEnv_rp) _

theorem convertOptTasks_rp {t : Option (List (String × Task))} : Reported .error (convertOptTasks early t) := by
  unfold convertOptTasks
  split
  · exact ErrIn.map _ convertTasks_rp
  · exact .ok _

theorem expandOptEnv_rp {e : Option Env} : Reported .error (expandOptEnv early e) := by
  unfold expandOptEnv
  split
  · exact ErrIn.map _ earlyX_rp
  · exact .ok _

theorem convertContext_rp {y : YContext} : Reported .error (convertContext y isB filename) := by
  unfold convertContext
  exact ErrIn.bind convertOptTasks_rp fun _ _ => ErrIn.bind expandOptEnv_rp fun _ _ =>
    ErrIn.bind (ErrIn.mapM (fun _ => depFromString_rp) _) fun _ _ => .ok _

theorem parentCounts_rp {l : List Context} : Reported .error (parentCounts cs l) := by
  induction l with
  | nil => exact .ok _
  | cons c rest ih =>
    unfold parentCounts
    split
    · exact rp_err _
    · err_match ih
      exact .ok _

theorem finalizeBag_rp : Reported .error (finalizeBag cs) := by
  rw [finalizeBag_eq]
  exact .ite (.map _ parentCounts_rp) (rp_err _)

theorem addModule_rp {m : Module} : Reported .error (addModule cs m) := by
  unfold addModule
  split
  · exact rp_err _
  · exact .ite (rp_err _) (.ok _)

end

/-! ### modules -/

section
variable {filename buildDir : String} {isB : Bool} {d : LDoc} {defaults : Option Module} {y : YModule}
  {cs : List Context}

/-- `depIf` is `depFromStringIf` -/
theorem mapEntryDeps_rp {l : List (String × List String)} : Reported .error (mapEntryDeps l) := by
  induction l with
  | nil => exact .ok _
  | cons kv rest ih =>
    unfold mapEntryDeps
    err_match ErrIn.mapM (fun _ => depFromStringIf_rp) _
    err_match ih
    exact .ok _

theorem entryDeps_rp {e : YEntry} : Reported .error (entryDeps e) := by
  unfold entryDeps
  split
  · exact ErrIn.map _ depFromString_rp
  · exact mapEntryDeps_rp

theorem entriesToDeps_rp {l : List YEntry} : Reported .error (entriesToDeps l) := by
  induction l with
  | nil => exact .ok _
  | cons e rest ih =>
    unfold entriesToDeps
    err_match entryDeps_rp
    err_match ih
    exact .ok _

theorem expandModuleEnvs_rp {m : Module} : Reported .error (expandModuleEnvs m) := by
  unfold expandModuleEnvs
  exact ErrIn.bind earlyX_rp fun _ _ => ErrIn.bind earlyX_rp fun _ _ => ErrIn.bind earlyX_rp fun _ _ => .ok _

theorem withTasks_rp {m : Module} : Reported .error (withTasks y m) := by
  unfold withTasks
  split
  · exact .ok _
  · err_match convertTasks_rp
    exact .ok _

theorem convertModule_rp {context : Option String} : Reported .error (convertModule y context isB filename defaults buildDir) := by
  unfold convertModule
  exact ErrIn.bind entriesToDeps_rp fun _ _ => ErrIn.bind (ErrIn.mapM (fun _ => depFromString_rp) _) fun _ _ =>
    ErrIn.bind entriesToDeps_rp fun _ _ => ErrIn.bind expandModuleEnvs_rp fun _ _ =>
    ErrIn.bind withTasks_rp fun _ _ => .ok _

theorem convertDefaults_rp : Reported .error (convertDefaults d defaults isB buildDir y) := by
  unfold convertDefaults
  refine .ite (rp_err _) ?_
  split
  · exact .ok _
  · rename_i e he
    obtain ⟨k, rfl⟩ := convertModule_rp e he
    exact rp_err _

theorem getDefaults_rp {map : List (Nat × Module)} {key : String} : Reported .error (getDefaults d map key isB buildDir) := by
  unfold getDefaults
  split
  · exact convertDefaults_rp
  · exact .ok _

/-! ### `data::load` after the work-list -/

theorem addContext_rp {acc : List Context × List Module} {y : YContext} : Reported .error (addContext filename isB acc y) := by
  rw [addContext_eq]
  exact .ite (rp_err _) (.map _ convertContext_rp)

theorem addContexts_rp {ys : List YContext} {acc : List Context × List Module} :
    Reported .error (addContexts filename isB ys acc) := by
  rw [addContexts_eq]
  exact ErrIn.foldlM (fun _ _ => addContext_rp) _ _

theorem convertContextsOfDoc_rp {acc : List Context × List Module} : Reported .error (convertContextsOfDoc d acc) := by
  rw [convertContextsOfDoc_eq]
  exact ErrIn.bind addContexts_rp fun _ _ => addContexts_rp

theorem convertContextsOfDocs_rp {ds : List LDoc} {acc : List Context × List Module} :
    Reported .error (convertContextsOfDocs ds acc) := by
  rw [convertContextsOfDocs_eq]
  exact ErrIn.foldlM (fun _ _ => convertContextsOfDoc_rp) _ _

theorem addModules_rp {ms : List Module} : Reported .error (addModules ms cs) := by
  rw [addModules_eq]
  exact ErrIn.foldlM (fun _ _ => addModule_rp) _ _

theorem addConverted_rp {c : Option String} : Reported .error (addConverted buildDir d isB defaults y c cs) := by
  rw [addConverted_eq]
  exact ErrIn.bind convertModule_rp fun _ _ => addModule_rp

theorem addModuleContexts_rp {l : List (Option String)} : Reported .error (addModuleContexts buildDir d isB defaults y l cs) := by
  rw [addModuleContexts_eq]
  exact ErrIn.foldlM (fun _ _ => addConverted_rp) _ _

theorem addYModules_rp {ys : List YModule} : Reported .error (addYModules buildDir d isB defaults ys cs) := by
  rw [addYModules_eq]
  exact ErrIn.foldlM (fun _ _ => addModuleContexts_rp) _ _

theorem addModuleSection_rp {sec : Option (Option (List YModule))} :
    Reported .error (addModuleSection buildDir d isB defaults sec cs) := by
  unfold addModuleSection
  split
  · exact .ok _
  · exact addYModules_rp
  · exact .ite addConverted_rp (.ok _)

theorem addModulesOfDoc_rp {md ad : Option Module} : Reported .error (addModulesOfDoc buildDir d md ad cs) := by
  rw [addModulesOfDoc_eq]
  exact ErrIn.bind addModuleSection_rp fun _ _ => addModuleSection_rp

theorem loadDocStep_rp {s : LoadState} : Reported .error (loadDocStep buildDir d s) := by
  unfold loadDocStep
  err_match getDefaults_rp
  err_match getDefaults_rp
  err_match addModulesOfDoc_rp
  exact .ok _

theorem loadModulesLoop_rp {ds : List LDoc} {s : LoadState} : Reported .error (loadModulesLoop buildDir ds s) := by
  rw [loadModulesLoop_eq]
  exact ErrIn.foldlM (fun _ _ => loadDocStep_rp) _ _

/-- `finalize` is `finalizeBag` with the default context -/
theorem loadDocs_rp {docs : List LDoc} : Reported .error (loadDocs buildDir docs) := by
  unfold loadDocs
  exact ErrIn.bind convertContextsOfDocs_rp fun _ _ => ErrIn.bind finalizeBag_rp fun _ _ =>
    ErrIn.bind addModules_rp fun _ _ => ErrIn.bind loadModulesLoop_rp fun _ _ => .ok _

end

/-! ### the work-list

The work-list loop fails only with "cannot read file" or by running out of fuel, and with the fuel
`load` gives it the fuel does not run out (`C17.load_files_no_hang`: no file is read twice). -/

theorem load_rp (fs : Files) (projectFile buildDir : String) : Reported .error (load fs projectFile buildDir) := by
  have hfiles : Reported .error (loadFiles fs (4 * fs.length + 8) 0 [⟨projectFile, none⟩] []) := fun e he => by
    obtain rfl | ⟨rfl, _⟩ := C17.loadFiles_error he
    · exact ⟨_, rfl⟩
    · exact absurd he (C17.load_files_no_hang fs projectFile _)
  unfold load
  exact ErrIn.bind hfiles fun _ _ => ErrIn.bind loadDocs_rp fun _ _ => .ok _

/-- **C15** the loader never panics -/
theorem load_no_panic (fs : Files) (projectFile buildDir : String) :
    ∀ site, load fs projectFile buildDir ≠ .error (.panic site) :=
  fun _ h => (load_rp fs projectFile buildDir _ h).elim fun _ hk => LErr.noConfusion hk

/-- **C15 (strong form)** `load` never reports a non-terminating include work-list — for EVERY
    file table (the injectivity argument does not need pairwise different paths in `fs`: `find?`
    maps different keys to different table entries anyway) -/
theorem load_no_hang_strong (fs : Files) (projectFile buildDir : String) :
    ∀ w, load fs projectFile buildDir ≠ .error (.hang w) :=
  fun _ h => (load_rp fs projectFile buildDir _ h).elim fun _ hk => LErr.noConfusion hk

/-- **C15** with pairwise different paths in the file table, `load` does not hang -/
theorem load_no_hang (fs : Files) (projectFile buildDir : String)
    (_hfs : (fs.map (fun fd => pathComponents fd.1)).Nodup) :
    ∀ w, load fs projectFile buildDir ≠ .error (.hang w) :=
  load_no_hang_strong fs projectFile buildDir

/-- so `load` succeeds or fails with a reported error -/
theorem load_total (fs : Files) (projectFile buildDir : String) :
    (∃ r, load fs projectFile buildDir = .ok r) ∨ ∃ k, load fs projectFile buildDir = .error (.error k) :=
  (load_rp fs projectFile buildDir).total

/-! ## malformed input is rejected with a diagnostic -/

/-- **C15** a context that is its own ancestor (its parent count is undefined) is rejected by
    `finalize` with "parent cycle" — unless `finalize` already failed with "unknown parent". Never
    success, never a panic (the implementation used to recurse until the stack overflowed). -/
theorem parent_cycle_rejected {cs0 : List Context} {c : Context} (hmem : c ∈ withDefaultContext cs0)
    (hc : countParents (withDefaultContext cs0) ((withDefaultContext cs0).length + 1) c.name = none) :
    finalize cs0 = .error (.error "context_bag.rs:parent cycle") ∨
      finalize cs0 = .error (.error "unknown parent") := by
  rw [finalize, finalizeBag_eq, parentCounts_cycle hc hmem]
  split
  · exact Or.inl rfl
  · exact Or.inr rfl

/-- so a bag that `finalize` accepts has a parent count for every context -/
theorem finalize_ok_counts {cs0 : List Context} {r : List Context × List (Name × Nat)}
    (h : finalize cs0 = .ok r) {c : Context} (hmem : c ∈ withDefaultContext cs0) :
    ∃ k, countParents (withDefaultContext cs0) ((withDefaultContext cs0).length + 1) c.name = some k := by
  cases hk : countParents (withDefaultContext cs0) ((withDefaultContext cs0).length + 1) c.name with
  | some k => exact ⟨k, rfl⟩
  | none =>
    rcases parent_cycle_rejected hmem hk with h' | h' <;> rw [h'] at h <;> cases h

/-! "its own ancestor", literally: following `parent` links from `n` comes back to `n` -/

/-- the parent of the context named `n` -/
def parentStep (cs : List Context) (n : Name) : Option Name := (cs.find? (·.name == n)).bind (·.parent)

/-- the `j`-th ancestor -/
def ancestor (cs : List Context) : Nat → Name → Option Name
  | 0, n => some n
  | j+1, n => (parentStep cs n).bind (ancestor cs j)

theorem ancestor_succ' (cs : List Context) (j : Nat) (n : Name) :
    ancestor cs (j+1) n = (ancestor cs j n).bind (parentStep cs) := by
  induction j generalizing n with
  | zero => exact Option.bind_fun_some _
  | succ j ih =>
    show (parentStep cs n).bind (ancestor cs (j+1)) = ((parentStep cs n).bind (ancestor cs j)).bind (parentStep cs)
    rw [Option.bind_assoc, funext ih]

theorem countParents_cycle (cs : List Context) (fuel : Nat) (n : Name) (j : Nat) (h : ancestor cs (j+1) n = some n) :
    countParents cs fuel n = none := by
  induction fuel generalizing n with
  | zero => rfl
  | succ fuel ih =>
    -- `n` has a parent `p`, whose `j`-th ancestor is `n`: so `p` lies on the cycle too
    obtain ⟨p, hp, hj⟩ := Option.bind_eq_some_iff.1 h
    have hpj : ancestor cs (j+1) p = some p := by rw [ancestor_succ', hj]; exact hp
    obtain ⟨c, hc, hcp⟩ := Option.bind_eq_some_iff.1 hp
    rw [countParents_child hc hcp, ih p hpj]
    rfl

/-- a context on a parent cycle (some `j+1`-th ancestor of `c` is `c` again) is rejected -/
theorem parent_cycle_rejected' {cs0 : List Context} {c : Context} (hmem : c ∈ withDefaultContext cs0) {j : Nat}
    (hcyc : ancestor (withDefaultContext cs0) (j+1) c.name = some c.name) :
    finalize cs0 = .error (.error "context_bag.rs:parent cycle") ∨
      finalize cs0 = .error (.error "unknown parent") :=
  parent_cycle_rejected hmem (countParents_cycle _ _ _ j hcyc)

/-- **C15** an empty dependency name is rejected (the implementation used to index out of bounds) -/
theorem empty_name_rejected : depFromString "" = .error (.error "data.rs:empty dependency name") := by
  unfold depFromString
  rw [if_pos (by decide)]

theorem empty_name_rejected_if (cond : String) :
    depFromStringIf "" cond = .error (.error "data.rs:empty dependency name") := by
  unfold depFromStringIf
  rw [if_pos (by decide)]

/-! ## examples: the hypotheses are satisfiable, the failure points are real -/

namespace Ex

/-- the panic site of the module loop is live when the order names something that is not a module
    env — `modulesLoop_rp`'s hypothesis (discharged by `buildOrder_names`) is what excludes it -/
example (ev : EvalExpr) (st : Settings) (app : Module) (r : Resolved) :
    modulesLoop ev st "b" app r [] none [] [] ["x"] {} [] =
      .error (.panic "generate.rs:modules.get(dep_name)") := rfl

/-- an app importing a build dependency: the hypotheses of `buildOrder_names` hold, and every name
    of the build order is a module env -/
def depMod : Module := { name := "dep", contextName := "default", srcdir := some "dep", isBuildDep := true }
def appMod : Module := { name := "app", contextName := "default", srcdir := some "app", imports := [.hard "dep"] }
def sel : Resolved := { modules := [appMod, depMod], providers := [] }
def selEnvs : List ModEnv :=
  [(appMod, [("notify", .list [defineName "dep", defineName "app"])], some ["dep"]),
   (depMod, [("notify", .list [defineName "dep"])], none)]

example : ∀ n ∈ ["dep", "app"], ∃ me ∈ selEnvs, me.1.name = n :=
  buildOrder_names (r := sel) (genv := []) (menvs := selEnvs) rfl (by decide +kernel)

/-- the fuel check of the work-list is live: with too little fuel it reports a hang -/
example : loadFiles [] 0 0 [⟨"laze-project.yml", none⟩] [] =
    .error (.hang "include work-list does not terminate") := rfl

/-- two contexts that are each other's parent -/
def cycle2 : List Context := [{ name := "a", parent := some "b" }, { name := "b", parent := some "a" }]

example : ancestor (withDefaultContext cycle2) 2 "a" = some "a" := by decide +kernel

/-- the two-context parent cycle is rejected by `finalize`, with the "parent cycle" diagnostic -/
example : (match finalize cycle2 with
    | .error (.error k) => k == "context_bag.rs:parent cycle"
    | _ => false) = true := by decide +kernel

/-- … and `parent_cycle_rejected'` applies to it -/
example : finalize cycle2 = .error (.error "context_bag.rs:parent cycle") ∨
    finalize cycle2 = .error (.error "unknown parent") :=
  parent_cycle_rejected' (c := { name := "a", parent := some "b" }) (j := 1)
    (by
      show _ ∈ (if _ then cycle2 else cycle2 ++ [defaultContext])
      rw [if_neg (by decide)]
      exact List.mem_append_left _ List.mem_cons_self)
    (by decide)

/-- a project file that includes itself -/
def selfInclude : Files := [("laze-project.yml", [{ includes := some ["laze-project.yml"] }])]

/-- on the self-including file table `load` does not hang (the hypothesis of `load_no_hang` holds) -/
example : ∀ w, load selfInclude "laze-project.yml" "build" ≠ .error (.hang w) :=
  load_no_hang selfInclude _ _ (by simp [selfInclude])

/-- … it ends with a bag or a reported error (`#eval` shows: success, one document read, work-list
    `["laze-project.yml"]`) -/
example : (∃ r, load selfInclude "laze-project.yml" "build" = .ok r) ∨
    ∃ k, load selfInclude "laze-project.yml" "build" = .error (.error k) :=
  load_total _ _ _

end Ex

end Laze.C15
